/-
  C17 — the checksum accumulator is a faithful mod-256 sum with exact inverses.
  Every operation appends some bytes and deletes some (`step_eq`); `append` and `delete` move
  the raw value by the sum of their bytes.
-/
import Acpi.Checksum
import Acpi.Lemmas.Sink
namespace Acpi.C17
open Cks

/-- bytes an operation adds to the accumulator -/
def added : Op → Bytes
  | .add b => [b] | .append bs => bs | .sink k => k.bytes | _ => []
/-- bytes an operation removes -/
def removed : Op → Bytes
  | .sub b => [b] | .delete bs => bs | _ => []

theorem append_raw (c : Cks) (bs : Bytes) : (c.append bs).raw = c.raw + sum8 bs :=
  foldl_add_acc bs c.value

theorem delete_raw (c : Cks) (bs : Bytes) : (c.delete bs).raw = c.raw - sum8 bs :=
  foldl_sub_acc bs c.value

theorem add_raw (c : Cks) (b : UInt8) : (c.add b).raw = c.raw + b := rfl

theorem raw_inj {c d : Cks} (h : c.raw = d.raw) : c = d := congrArg Cks.mk h

theorem foldl_add_eq_append (bs : Bytes) (c : Cks) : bs.foldl Cks.add c = c.append bs :=
  List.foldl_hom Cks.mk (g₁ := (· + ·)) (g₂ := Cks.add) (init := c.value) fun _ _ => rfl

theorem sink_feed1 (c : Cks) (k : SinkCall) : Sink.feed1 Cks.sink c k = c.append k.bytes := by
  rw [Cks.sink, Sink.feed1_ofByte, foldl_add_eq_append]

theorem sink_feed (c : Cks) (cs : List SinkCall) :
    Sink.feed Cks.sink c cs = c.append (flatten cs) := by
  rw [Cks.sink, Sink.feed_ofByte, foldl_add_eq_append]

/-- One sink call, whichever entry point it uses, moves the raw value by the sum of the bytes
    it carries.  (For a whole call list: `C14.checksum_sink`.) -/
theorem sink_raw (c : Cks) (k : SinkCall) :
    (Sink.feed1 Cks.sink c k).raw = c.raw + sum8 k.bytes := by
  rw [sink_feed1, append_raw]

theorem step_eq (c : Cks) (op : Op) : step c op = (c.append (added op)).delete (removed op) := by
  cases op with
  | sink k => exact sink_feed1 c k
  | _ => rfl

theorem raw_foldl_step (ops : List Op) (c : Cks) : (ops.foldl step c).raw
    = c.raw + sum8 (ops.flatMap added) - sum8 (ops.flatMap removed) := by
  induction ops generalizing c with
  | nil => simp
  | cons op ops ih =>
    simp only [List.foldl_cons, List.flatMap_cons, sum8_append, ih, step_eq, delete_raw, append_raw]
    grind

/-- **C17(a)**: after any operation sequence the raw value is the sum of the bytes added
    minus the sum of the bytes removed, modulo 256 — singly, as slices, or via the sink. -/
theorem raw_is_sum (ops : List Op) :
    (run ops).raw = sum8 (ops.flatMap added) - sum8 (ops.flatMap removed) := by
  simpa [run, raw] using raw_foldl_step ops {}

/-- **C17(b)**: removing what was added restores the previous state exactly. -/
theorem delete_append (c : Cks) (bs : Bytes) : (c.append bs).delete bs = c :=
  raw_inj (by rw [delete_raw, append_raw, UInt8.add_sub_cancel])

theorem append_delete (c : Cks) (bs : Bytes) : (c.delete bs).append bs = c :=
  raw_inj (by rw [append_raw, delete_raw, UInt8.sub_add_cancel])

theorem sub_add (c : Cks) (b : UInt8) : (c.add b).sub b = c := delete_append c [b]

theorem add_sub (c : Cks) (b : UInt8) : (c.sub b).add b = c := append_delete c [b]

theorem cksum_eq_neg (c : Cks) : c.cksum = 0 - c.raw := sub_255_add_one _

/-- **C17(c)**: the reported checksum makes raw value plus checksum vanish. -/
theorem raw_add_cksum (c : Cks) : c.raw + c.cksum = 0 := by
  rw [cksum_eq_neg, UInt8.zero_sub, UInt8.add_right_neg]

theorem toNat_step (c : Cks) (b : UInt8) :
    (c.add b).raw.toNat = (c.raw.toNat + b.toNat) % 256 ∧
    (c.sub b).raw.toNat = (c.raw.toNat + 256 - b.toNat) % 256 ∧
    (c.cksum.toNat + c.raw.toNat) % 256 = 0 := by
  refine ⟨UInt8.toNat_add _ _, ?_, ?_⟩
  · have := b.toNat_lt
    rw [show (c.sub b).raw = c.raw - b from rfl, UInt8.toNat_sub]
    omega
  · have := congrArg UInt8.toNat (raw_add_cksum c)
    rwa [UInt8.toNat_add, Nat.add_comm] at this

/-- Cross-check of the algebra on the whole single-step table (256 × 256): `add`, `sub` and
    `cksum` agree with `Nat` arithmetic modulo 256. -/
theorem single_step_table :
    ∀ s b : Fin 256,
      ((Cks.mk (UInt8.ofNat s)).add (UInt8.ofNat b)).raw.toNat = (s.val + b.val) % 256 ∧
      ((Cks.mk (UInt8.ofNat s)).sub (UInt8.ofNat b)).raw.toNat = (s.val + 256 - b.val) % 256 ∧
      ((Cks.mk (UInt8.ofNat s)).cksum.toNat + s.val) % 256 = 0 := by
  intro s b
  have h := toNat_step ⟨UInt8.ofNat s⟩ (UInt8.ofNat b)
  rwa [show (Cks.mk (UInt8.ofNat s)).raw = UInt8.ofNat s from rfl,
    UInt8.toNat_ofNat_of_lt' s.isLt, UInt8.toNat_ofNat_of_lt' b.isLt] at h

/-- non-vacuity: a concrete mixed history -/
example : (run [.add 200, .append [100, 7], .sink (.word 0x1234), .sub 3, .delete [7]]).raw
    = 200 + 100 + 7 + 0x34 + 0x12 - 3 - 7 := by decide

end Acpi.C17
