/-
  Helper lemmas for Acpi/Props/C11/{Distinct,Order}.lean (C11: distinguishability of flag
  options, gating flags, order/repetition irrelevance):

    * the arithmetic of a flag field written as a sum of pairwise disjoint bits (`flagSum`): the
      sum is the OR, so bit `b` of it is set iff its option occurs
      (`base_add_flagSum_and_eq_iff`, from `flagBits_disjoint`),
    * where the flags field sits in the reference rows (`flagField`, `rows_flagField`),
    * the OR-fold of the PPTT cache attributes, the per-cell filters of the HMAT locality structure.
-/
import Acpi.Lemmas.ProcFlags
import Acpi.Props.C11
namespace Acpi.C11
open Spec

theorem bit_eq_ite (opts : List Opt) (nm : String) (b : Nat) :
    bit opts nm b = if has opts nm = true then b else 0 := rfl

theorem has_iff_pushed_ne_nil (opts : List Opt) (nm : String) :
    has opts nm = true ↔ pushed opts nm ≠ [] := by
  unfold has pushed
  simp [List.any_eq_true, List.filter_eq_nil_iff]

/-! ### a flag field as a sum of pairwise disjoint bits -/

theorem flagSum_and_eq_iff (opts : List Opt) (l : List (String × Nat)) (hd : BitsDisjoint l)
    (h0 : ∀ p ∈ l, p.2 ≠ 0) (nm : String) (b : Nat) (hm : (nm, b) ∈ l) :
    (flagSum opts l &&& b = b ↔ has opts nm = true) := by
  induction l with
  | nil => cases hm
  | cons q l ih =>
    obtain ⟨hq, hl⟩ := List.pairwise_cons.mp hd
    have hql := and_flagSum_eq_zero opts _ l hl fun p hp => bit_and_eq_zero opts q.1 (hq p hp)
    rw [flagSum_cons, add_eq_or_of_and_eq_zero _ _ hql, Nat.and_or_distrib_right]
    rcases List.mem_cons.mp hm with rfl | hm
    · -- the head: the rest of the sum is disjoint from `b`
      rw [Nat.and_comm (flagSum opts l), and_flagSum_eq_zero opts _ l hl hq, Nat.or_zero]
      have := h0 _ (.head _)
      unfold bit
      cases has opts nm <;> simp [Ne.symm this]
    · rw [bit_and_eq_zero opts q.1 (hq _ hm), Nat.zero_or]
      exact ih hl (fun p hp => h0 p (.tail _ hp)) hm

theorem base_add_flagSum_and_eq_iff (opts : List Opt) (l : List (String × Nat)) (hok : bitsOk l = true) (base : Nat)
    (hb : ∀ p ∈ l, base &&& p.2 = 0) (nm : String) (b : Nat) (hm : (nm, b) ∈ l) :
    ((base + flagSum opts l) &&& b = b ↔ has opts nm = true) := by
  obtain ⟨hpw, h0⟩ := pairwise_of_bitsOk l hok
  rw [add_eq_or_of_and_eq_zero _ _ (and_flagSum_eq_zero opts base l hpw hb), Nat.and_or_distrib_right,
    hb _ hm, Nat.zero_or]
  exact flagSum_and_eq_iff opts l hpw h0 nm b hm

/-! ### the flags field in the reference rows -/

/-- (offset, width) of the flags field of each flag-bearing structure (ACPI 6.5 Tables 5.59,
    5.65, 5.66 (RINTC affinity), 5.138, 5.140, CXL CFMWS, 5.146 (HMAT SLLBI), 5.34 (GIC MSI frame)) -/
def flagField : Kind → Nat × Nat
  | .mem => (28, 4) | .gi => (24, 4) | .rintcAff => (12, 4) | .proc => (4, 4) | .cache => (4, 4)
  | .cfmws => (32, 2) | .loc => (8, 1) | .gicmsi => (16, 4) | _ => (0, 0)

/-- the reference rows hold, at `flagField k`, the sum of the bits of `flagBits k` invoked (over
    `flagBase`) -/
theorem rows_flagField (k : Kind) (hk : flagBits k ≠ []) (c : EArgs) (opts : List Opt)
    (hnw : k = .proc → noFlagsWrite opts = true) :
    ∃ total rs v, rows k c opts = some (total, rs) ∧ numAt rs (flagField k).1 (flagField k).2 = some v ∧
      v = flagBase k c + flagSum opts (flagBits k) := by
  cases k
  case proc =>
    exact ⟨_, _, _, rfl, rfl, by
      rw [ProcF.procFlags_of_noFlagsWrite opts (hnw rfl)]; simp [flagSum, flagBits, flagBase, Nat.add_assoc]⟩
  case gi =>
    -- the flags row follows the `if` on the handle type
    refine ⟨_, _, bit opts "en" 1 + bit opts "arch" 2, rfl, ?_, by simp [flagSum, flagBits, flagBase]⟩
    by_cases e : c.num 1 = 1 <;> simp only [e, if_true, if_false] <;> rfl
  case mem | rintcAff | cache | cfmws | loc | gicmsi =>
    all_goals exact ⟨_, _, _, rfl, rfl, by simp [flagSum, flagBits, flagBase, Nat.add_assoc]⟩
  all_goals exact absurd rfl hk

/-- the bits of a kind fit its flags field, with room for the base that shares it -/
theorem flagBits_fit (k : Kind) :
    flagBits k = [] ∨ 3 + ((flagBits k).map (·.2)).sum < 256 ^ (flagField k).2 := by
  cases k <;> decide

theorem flagBase_le (k : Kind) (c : EArgs) (opts : List Opt) (hwf : entryWf k c opts = true) :
    flagBase k c ≤ 3 := by
  cases k
  case loc => have := loc_ctor_lt c opts hwf; simp only [flagBase]; omega
  all_goals exact Nat.zero_le _

/-! ### the OR-fold of the PPTT cache attributes depends only on the *set* of values -/

theorem testBit_foldl_or (f : Nat → Nat) (l : List Nat) (acc i : Nat) :
    (l.foldl (fun a v => a ||| f v) acc).testBit i = (acc.testBit i || l.any fun v => (f v).testBit i) := by
  induction l generalizing acc with
  | nil => simp
  | cons v l ih =>
    simp only [List.foldl_cons, List.any_cons]
    rw [ih, Nat.testBit_or, Bool.or_assoc]

theorem foldl_or_congr_set (f : Nat → Nat) (l l' : List Nat) (h : ∀ v, v ∈ l ↔ v ∈ l') :
    l.foldl (fun a v => a ||| f v) 0 = l'.foldl (fun a v => a ||| f v) 0 := by
  apply Nat.eq_of_testBit_eq
  intro i
  rw [testBit_foldl_or, testBit_foldl_or]
  congr 1
  rw [Bool.eq_iff_iff]
  simp only [List.any_eq_true]
  constructor
  · rintro ⟨v, hv, hb⟩; exact ⟨v, (h v).mp hv, hb⟩
  · rintro ⟨v, hv, hb⟩; exact ⟨v, (h v).mpr hv, hb⟩

/-! ### filters that ignore the calls of a given class -/

/-- a filter selecting only calls outside a class `q` sees the same calls after the class `q` has
    been removed from the program -/
theorem filter_eq_filter_filter_not (opts : List Opt) (p q : Opt → Bool) (h : ∀ o, p o = true → q o = false) :
    opts.filter p = (opts.filter (fun o => !q o)).filter p := by
  rw [List.filter_filter]
  congr 1
  funext o
  cases hp : p o with
  | false => simp
  | true => simp [h o hp]

end Acpi.C11
