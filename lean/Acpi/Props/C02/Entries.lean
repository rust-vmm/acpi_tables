/-
  C02 for single entries: the Rust `len()` helper each table uses to grow its
  Length field (and its handle offset) equals the number of bytes the entry serialises to.
  This is the side condition `claimed = raw.length` of the engine theorems C02.tbl_length_field
  and C05.handle_is_offset, discharged for every entry kind of the model.
-/
import Acpi.Lemmas.Inst
import Acpi.Props.C02.Rdpas
namespace Acpi.C02
open Spec

/-- **C02 (entries)**: for every entry kind that is added to a table — except the CEDT RDPAS
    record (recorded finding) — `len()` is the serialised size of every entry built from
    arguments within their Rust types. -/
theorem entry_length (k : Kind) (hk : k ≠ .rdpas) (c : EArgs) (opts : List Opt) (a : EArgs)
    (hwf : entryWf k c opts = true) (h : buildEntry k c opts = .ok a) :
    (entryBytes k a).length = lenOf k a := by
  cases k with
  | rdpas => exact absurd rfl hk
  -- the kinds whose `len()` is a constant: the size comes from conformance (C04)
  | mem | gi | chbs | cache | cmo | mmu | pcirange | mmioep | pciiommu | mmioiommu =>
    exact conforms.length (Inst.entry_rows (by decide) hwf nofun h rfl)
  -- every other kind: `len()` is the sum of the field widths, which is the serialised size
  | _ => exact length_encFields _

/-- the recorded finding as a theorem about the model: an RDPAS record serialises to 17 bytes
    while `len()` says 16 -/
theorem rdpas_counterexample :
    (entryBytes .rdpas { n := #[1, 2, 3, 4, 1, 5] }).length = 17 ∧ lenOf .rdpas { n := #[1, 2, 3, 4, 1, 5] } = 16 :=
  ⟨(rdpas_always _).1, (rdpas_always _).2.1⟩

end Acpi.C02
