/-
  C03, the per-entry summary fields (second sentence of the property): resource,
  offset, wire, mapping, handle, bitmap and target counts, array offsets, string lengths inside
  one entry equal what the entry's own size implies.  `Spec.entryCountsOracle` is what the
  driver evaluates on the implementation's entries; here it is proved of the model's.
-/
import Acpi.Lemmas.Counts
namespace Acpi.C03
open Spec

/-- **C03 (inner counts)**: for every entry kind, every constructor argument tuple and builder
    program within their Rust types, if the program does not panic the serialised entry passes
    the inner-count oracle.

    HYPOTHESES (the statement without them is false, see `loc_counts_needs_h32`,
    `cfmws_counts_needs_hways`, `isa_counts_needs_hnul` below):
    * `h32` — an HMAT locality structure is smaller than 4 GiB (same assumption as in
      `entry_self_describing`: the initiator and target counts have 4-byte fields and the model
      puts no bound on them).
    * `hways` — the CFMWS interleave-ways code fits its one-byte field (an enum with codes
      0–4, 8–10 in the crate, an unconstrained number in the model).
    * `hnul` — the RHCT ISA string has no interior NUL byte (a Rust `&str` may contain one and
      the crate does not check; the node then carries a C string shorter than announced).

    The RQSC hypothesis `qosCtorWf` of C04 is NOT needed here: the resource walk only reads the
    type and length fields, which the asserts of `ResourceStructure::new` / `add_resource` bound. -/
theorem entry_counts (k : Kind) (c : EArgs) (opts : List Opt) (a : EArgs)
    (hwf : entryWf k c opts = true)
    (h : buildEntry k c opts = .ok a)
    (h32 : k = .loc → (entryBytes k a).length < 2 ^ 32)
    (hways : k = .cfmws → c.num 4 < 256)
    (hnul : k = .isa → ∀ b ∈ c.blob 0, b ≠ 0) :
    entryCountsOracle k (entryBytes k a) = none := by
  cases k with
  | proc | msc | hart | cxims => exact Counts.counts_stateList _ (by decide) c opts a hwf h
  | isa => exact Counts.counts_isa c opts a hwf h (hnul rfl)
  | iommu | pcierc => exact Counts.counts_rimt _ (by decide) c opts a hwf h
  | platform => exact Counts.counts_platform c opts a hwf h
  | loc => exact Counts.counts_loc c opts a hwf h (h32 rfl)
  | cfmws => exact Counts.counts_cfmws c opts a hwf h (hways rfl)
  | qosctrl => exact Counts.counts_qosctrl c opts a h
  | _ => rfl

/-- `h32` cannot be dropped: a locality structure with 2^32 initiators and no target announces
    0 initiators -/
theorem loc_counts_needs_h32 : ∃ c a, entryWf .loc c [] = true ∧ buildEntry .loc c [] = .ok a ∧
    entryCountsOracle .loc (entryBytes .loc a) ≠ none := by
  refine ⟨{ n := #[0, 0, 0, 0, 2 ^ 32, 0] }, _, by decide, rfl, ?_⟩
  -- not by `decide` on the bytes: the image has 16 GiB
  obtain ⟨hl, hr, hr2⟩ := Counts.loc_reads { n := #[0, 0, 0, 0, 2 ^ 32, 0] } [] _ (by decide) rfl
  unfold entryCountsOracle
  simp only [hl, hr, hr2]
  decide

/-- `hways` cannot be dropped: the code 256 (no targets) is stored as 0, which means one target -/
theorem cfmws_counts_needs_hways : ∃ c a, entryWf .cfmws c [] = true ∧ buildEntry .cfmws c [] = .ok a ∧
    entryCountsOracle .cfmws (entryBytes .cfmws a) ≠ none :=
  ⟨{ n := #[0, 0, 0, 0, 256, 0] }, _, by decide, rfl, by decide⟩

/-- `hnul` cannot be dropped: the one-character string "\0" -/
theorem isa_counts_needs_hnul : ∃ c a, entryWf .isa c [] = true ∧ buildEntry .isa c [] = .ok a ∧
    entryCountsOracle .isa (entryBytes .isa a) = some "NUL inside the string" :=
  ⟨{ b := #[[0]] }, _, by decide, rfl, by decide⟩

end Acpi.C03
