/-
  C05, whole tables: the handles a program's add calls return are the offsets of their nodes.
-/
import Acpi.Tables.Whole
import Acpi.Props.C05
import Acpi.Lemmas.Whole
namespace Acpi.C05

/-- **C05 (whole tables)**: in every non-panicking program (entries within their Rust types, no
    RDPAS), the i-th add call's handle is the byte offset at which that very entry's serialised
    bytes sit in the final image. -/
theorem whole_handles (T : TableId) (o : Oem) (ho : C02.OemWf o) (ops : List AddOp)
    (hwf : ∀ op ∈ ops, op.k ≠ .rdpas ∧ entryWf op.k op.ctor op.opts = true)
    (bs : List (Kind × EArgs)) (hb : buildAll ops = some bs)
    (hs : List Nat) (t : Tbl) (h : runTable T o ops = some (hs, t)) :
    hs.length = bs.length ∧
    ∀ i (hi : i < bs.length), ∃ hnd, hs[i]? = some hnd ∧
      (t.image.drop hnd).take (entryBytes bs[i].1 bs[i].2).length = entryBytes bs[i].1 bs[i].2 := by
  obtain ⟨-, hr⟩ := Whole.runAdds_of_runTable hb h
  have hcl := Whole.claimed_eq ops hwf bs hb
  refine ⟨by rw [(handle_value T.cfg o _ hcl hs t hr).1, List.length_map], ?_⟩
  intro i hi
  have hi' : i < (bs.map rawOf).length := by rw [List.length_map]; exact hi
  obtain ⟨hnd, h1, h2⟩ := handle_is_offset T.cfg o (Whole.cfgWf T o ho) _ hcl hs t hr i hi'
  refine ⟨hnd, h1, ?_⟩
  simp only [List.getElem_map, rawOf] at h2
  exact h2

end Acpi.C05
