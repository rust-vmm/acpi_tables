/-
  Acpi.Lemmas.AmlLeaf — parser lemmas for the leaves (integers, strings, locals, args, names)
  and the bridge between the model's `pathEnc` and the spec's `pathOf` / `NameString.decode`.
-/
import Acpi.Lemmas.AmlParse
import Acpi.Spec.AmlWf
import Acpi.Props.C09
namespace Acpi.Lemmas.AmlParse
open Spec Spec.Aml

theorem intEnc_head (n : Nat) : ∃ b t, Int.enc n = b :: t ∧
    (b = 0x00 ∨ b = 0x01 ∨ b = 0x0A ∨ b = 0x0B ∨ b = 0x0C ∨ b = 0x0E) := by
  unfold Int.enc
  (repeat' split) <;> exact ⟨_, _, rfl, by decide⟩

theorem takeString_app (s rest : Bytes) (h : (0 : UInt8) ∉ s) :
    takeString (s ++ 0 :: rest) = some (s, rest) := by
  induction s with
  | nil => simp [takeString]
  | cons a s ih =>
    have ha : a ≠ 0 := fun e => h (by simp [e])
    have hs : (0 : UInt8) ∉ s := fun e => h (by simp [e])
    simp only [List.cons_append, takeString, if_neg ha, ih hs, Option.map_some]

theorem parseTerm_str (env : Env) (fuel : Nat) (s rest : Bytes) (h : (0 : UInt8) ∉ s) :
    parseTerm env (fuel + 1) (0x0D :: (s ++ 0 :: rest)) = some (.node .str [] [s] .nil, rest) := by
  rw [parseTerm.eq_3]
  have h1 : ¬ ((0x0D : UInt8) = 0x00 ∨ (0x0D : UInt8) = 0x01 ∨ (0x0D : UInt8) = 0x0A ∨ (0x0D : UInt8) = 0x0B ∨
    (0x0D : UInt8) = 0x0C ∨ (0x0D : UInt8) = 0x0E) := by decide
  simp only [if_neg h1, if_true, takeString_app s rest h, Option.map_some]

theorem ofNat_range (base n hi : Nat) (h : base + n ≤ hi) (hh : hi < 256) :
    UInt8.ofNat base ≤ UInt8.ofNat (base + n) ∧ UInt8.ofNat (base + n) ≤ UInt8.ofNat hi := by
  simp only [UInt8.le_iff_toNat_le, UInt8.toNat_ofNat']; omega

/-- a byte in the LocalObj / ArgObj range is no integer prefix and no string prefix -/
theorem local_arg_classes (b : UInt8) (h : 0x60 ≤ b.toNat ∧ b.toNat ≤ 0x6E) :
    ¬ (b = 0x00 ∨ b = 0x01 ∨ b = 0x0A ∨ b = 0x0B ∨ b = 0x0C ∨ b = 0x0E) ∧ ¬ b = 0x0D := by
  simp only [← UInt8.toNat_inj, UInt8.toNat_ofNat]; omega

theorem parseTerm_local (env : Env) (fuel n : Nat) (rest : Bytes) (h : n ≤ 7) :
    parseTerm env (fuel + 1) (UInt8.ofNat (0x60 + n) :: rest) = some (.node .local_ [n] [] .nil, rest) := by
  rw [parseTerm.eq_3]
  obtain ⟨h1, h2⟩ := local_arg_classes (UInt8.ofNat (0x60 + n)) (by rw [UInt8.toNat_ofNat']; omega)
  have h3 : 0x60 ≤ UInt8.ofNat (0x60 + n) ∧ UInt8.ofNat (0x60 + n) ≤ 0x67 :=
    ofNat_range 0x60 n 0x67 (by omega) (by decide)
  have h4 : (UInt8.ofNat (0x60 + n)).toNat - 0x60 = n := by
    simp only [UInt8.toNat_ofNat']; omega
  simp only [if_neg h1, if_neg h2, if_pos h3, h4]

theorem parseTerm_arg (env : Env) (fuel n : Nat) (rest : Bytes) (h : n ≤ 6) :
    parseTerm env (fuel + 1) (UInt8.ofNat (0x68 + n) :: rest) = some (.node .arg [n] [] .nil, rest) := by
  rw [parseTerm.eq_3]
  obtain ⟨h1, h2⟩ := local_arg_classes (UInt8.ofNat (0x68 + n)) (by rw [UInt8.toNat_ofNat']; omega)
  have h3 : ¬ (0x60 ≤ UInt8.ofNat (0x68 + n) ∧ UInt8.ofNat (0x68 + n) ≤ 0x67) := by
    simp only [UInt8.le_iff_toNat_le, UInt8.toNat_ofNat', UInt8.toNat_ofNat]; omega
  have h3' : 0x68 ≤ UInt8.ofNat (0x68 + n) ∧ UInt8.ofNat (0x68 + n) ≤ 0x6E :=
    ofNat_range 0x68 n 0x6E (by omega) (by decide)
  have h4 : (UInt8.ofNat (0x68 + n)).toNat - 0x68 = n := by
    simp only [UInt8.toNat_ofNat']; omega
  simp only [if_neg h1, if_neg h2, if_neg h3, if_pos h3', h4]

theorem parseTerm_name (env : Env) (fuel : Nat) (b : UInt8) (bs rest rest' : Bytes) (rt : Bool)
    (segs : List Bytes) (args : TmList) (hb : isNameLead b = true)
    (hn : NameString.decode (b :: bs) = some (rt, segs, rest))
    (ha : parseTerms env fuel (env.arity rt segs) rest = some (args, rest')) :
    parseTerm env (fuel + 1) (b :: bs) = some (mkName rt segs args, rest') := by
  obtain ⟨h1, h2, h3, h4, _⟩ := lead_classes b hb
  rw [parseTerm.eq_3]
  simp only [if_neg h1, if_neg h2, if_neg h3, if_neg h4, hb, if_true, hn, ha, Option.map_some]

theorem pathOf_eq (s : Bytes) : pathOf s = (Path.isRooted s, splitDot (Path.body s)) := by
  have hf : ∀ l : Bytes, l.foldr (fun (b : UInt8) (acc : List Bytes) => if b = 0x2E then [] :: acc else
      match acc with
      | p :: ps => (b :: p) :: ps
      | [] => [[b]]) [[]] = splitDot l := by
    intro l
    induction l with
    | nil => rfl
    | cons b l ih =>
      simp only [List.foldr_cons, ih, splitDot]
      split
      · rfl
      · split <;> rename_i h <;> simp only [h]
  unfold pathOf Path.body Path.isRooted
  by_cases h : s.head? = some 0x5C
  -- either way `simp` settles the first components and leaves the fold against `splitDot`
  · simp [h]; exact hf _
  · simp [h]; exact hf _

theorem path_head (P : Path) (h1 : 1 ≤ P.parts.length) (hs : ∀ q ∈ P.parts, NameString.isSeg q = true) :
    ∃ b t, P.enc = b :: t ∧ isNameLead b = true := by
  unfold Path.enc
  cases P.root
  · simp only [Bool.false_eq_true, if_false, List.nil_append]
    match hp : P.parts, h1, hs with
    | [q], _, hs =>
      obtain ⟨a, t, rfl, ha⟩ := C09.lead_of_seg q (hs q (by simp))
      refine ⟨a, t, by simp [namePrefix], ?_⟩
      simp [isNameLead, ha]
    | [q1, q2], _, _ => exact ⟨0x2E, _, rfl, by decide⟩
    | q1 :: q2 :: q3 :: qs, _, _ => exact ⟨0x2F, _, rfl, by decide⟩
  · exact ⟨0x5C, _, rfl, by decide⟩

theorem pathEnc_decode (s p rest : Bytes) (hp : pathEnc s = some p) (hok : pathOk s = true) :
    NameString.decode (p ++ rest) = some ((pathOf s).1, (pathOf s).2, rest) ∧
    ∃ b t, p = b :: t ∧ isNameLead b = true := by
  obtain ⟨P, hn, _, rfl⟩ := pathEnc_some hp
  obtain ⟨hr, hparts, _, _⟩ := C09.new_some s P hn
  unfold pathOk at hok
  rw [pathOf_eq] at hok ⊢
  simp only [Bool.and_eq_true, decide_eq_true_eq, List.all_eq_true] at hok
  obtain ⟨⟨h1, h2⟩, h3⟩ := hok
  rw [← hparts] at h1 h2 h3
  refine ⟨?_, path_head P h1 h3⟩
  rw [C09.decode_enc P rest h3 h1 h2, hr, hparts]

end Acpi.Lemmas.AmlParse
