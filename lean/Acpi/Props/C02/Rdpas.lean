/-
  C02/C03, the recorded finding made precise: every CEDT RDPAS record (`PortAssociation`), for
  all arguments, serialises to 17 bytes while `len()` and the record's own length field say 16
  (`C02.rdpas_counterexample` is one instance).  Hence a CEDT holding k such records declares a
  Length exactly k short — the pattern the known-findings file lists.
-/
import Acpi.Lemmas.Layout
namespace Acpi.C02

/-- for all arguments: 17 bytes emitted, 16 claimed, and the record's length field (bytes 2..4)
    reads 16 -/
theorem rdpas_always (a : EArgs) :
    (entryBytes .rdpas a).length = 17 ∧ lenOf .rdpas a = 16 ∧ readAt (entryBytes .rdpas a) 2 2 = some 16 :=
  -- the widths sum to 17; bytes 2 and 3 are the `w16 16` of `fields .rdpas`
  ⟨(length_encFields _).trans rfl, rfl, readAt_mid [3, 0] [16, 0] _ 2 2 rfl rfl⟩

end Acpi.C02
