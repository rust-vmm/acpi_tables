/-
  C11 — "Distinct options are therefore always distinguishable in the output, and an option that
  gates other fields (a 'values supplied' flag) is set exactly when those values were supplied",
  "in any order and any number of times".

  Everything here is a consequence of C04.entry_conforms (the model's bytes *are* the reference
  rows of Acpi.Spec.Layout, which give the options their set meaning):

    * `flags_field`            the flags field of each flag-bearing structure, read back
                               little-endian at its specification offset, is the sum of the
                               specification bits of exactly the options invoked;
      `flag_set_iff`           bit `b` of it is set iff option `nm` was invoked, for every
                               `(nm, b) ∈ flagBits k`;
      `flag_distinguishable`   two programs differing in whether `nm` was invoked never emit the
                               same bytes.
    * `cache_gating`, `gicmsi_gating` (+ the gated value fields): a "values supplied" flag is set
      exactly when the value option occurs, the value field holds the last value supplied, and
      an absent option leaves both zero.

  Order and repetition of the calls: Acpi/Props/C11/Order.lean.

  PPTT processor node: its flags field can also be *assigned* directly (`set=0.value`, the Rust
  `node.flags = v`).  The general fact is `proc_flags_field` (last written value OR-ed with the
  builders invoked after the write); the set-semantics statements above hold for `.proc` exactly
  for programs without such a write (`noFlagsWrite`), and `proc_flags_write_indistinguishable`
  shows the hypothesis is needed.
-/
import Acpi.Lemmas.C11Distinct
namespace Acpi.C11
open Spec

section perKind
variable (c : EArgs) (opts : List Opt) (a : EArgs)

/-- PPTT processor node, in general: the flags dword holds the value of the last direct write of
    the field (0 if there is none) OR-ed with the specification bits of the flag builders invoked
    after that write -/
theorem proc_flags_field (hwf : entryWf .proc c opts = true) (h : buildEntry .proc c opts = .ok a) :
    readAt (entryBytes .proc a) 4 4 = some (procFlags opts) :=
  conforms.at_lt (Inst.entry_rows (by decide) hwf nofun h rfl) rfl
    (ProcF.procFlags_lt opts ((Bool.and_eq_true _ _).mp hwf).2)

end perKind

/-- **C11, the flags field**: for each of the eight flag-bearing structures, whatever the program
    (any options, any order, any multiplicity), the flags field read back little-endian at its
    specification offset is the sum of the specification bits of exactly those flag options that
    occur in the program (plus, for the HMAT locality structure, the hierarchy code that shares
    the byte).  For the PPTT processor node, whose flags field can also be assigned directly, this
    is the statement for programs without such a write (`hnw`); see `proc_flags_field` for the
    general value and `proc_flags_write_indistinguishable` for why `hnw` is needed. -/
theorem flags_field (k : Kind) (c : EArgs) (opts : List Opt) (a : EArgs) (hk : flagBits k ≠ [])
    (hwf : entryWf k c opts = true) (h : buildEntry k c opts = .ok a)
    (hnw : k = .proc → noFlagsWrite opts = true) :
    readAt (entryBytes k a) (flagField k).1 (flagField k).2 =
      some (flagBase k c + flagSum opts (flagBits k)) := by
  obtain ⟨total, rs, v, hr, hv, rfl⟩ := rows_flagField k hk c opts hnw
  have hc := Inst.entry_rows (by rintro rfl; exact hk rfl) hwf (by rintro rfl; exact absurd rfl hk) h hr
  have := flagSum_le opts (flagBits k)
  have := flagBase_le k c opts hwf
  have := (flagBits_fit k).resolve_left hk
  exact conforms.at_lt hc hv (by omega)

/-- in the value of the flags field, bit `b` is set iff option `nm` occurs in the program, for every
    pair `(nm, b)` of the specification's table `flagBits k` (pure arithmetic: the bits are pairwise
    disjoint, and the HMAT hierarchy code stays below the flag bits) -/
theorem flag_bit_iff (k : Kind) (c : EArgs) (opts : List Opt) (hwf : entryWf k c opts = true)
    (nm : String) (b : Nat) (hm : (nm, b) ∈ flagBits k) :
    ((flagBase k c + flagSum opts (flagBits k)) &&& b = b ↔ has opts nm = true) :=
  base_add_flagSum_and_eq_iff opts _ (flagBits_disjoint k) _ (flagBase_disjoint k c opts hwf) nm b hm

/-- **C11, every flag option is read back**: the flags field of the emitted bytes can be read at
    its specification offset, and in it the specification bit `b` of flag option `nm` is set if
    and only if `nm` was invoked (at least once, anywhere in the program) — whatever other
    options were invoked.  (PPTT processor node: for programs that do not assign the flags field
    directly, `hnw`; in general see `proc_flag_set_iff`.) -/
theorem flag_set_iff (k : Kind) (c : EArgs) (opts : List Opt) (a : EArgs)
    (hwf : entryWf k c opts = true) (h : buildEntry k c opts = .ok a)
    (hnw : k = .proc → noFlagsWrite opts = true)
    (nm : String) (b : Nat) (hm : (nm, b) ∈ flagBits k) :
    ∃ f, readAt (entryBytes k a) (flagField k).1 (flagField k).2 = some f ∧
      (f &&& b = b ↔ has opts nm = true) :=
  ⟨_, flags_field k c opts a (List.ne_nil_of_mem hm) hwf h hnw, flag_bit_iff k c opts hwf nm b hm⟩

/-- **C11, distinguishability**: two builder programs for the same structure with the same
    constructor arguments that differ in whether flag option `nm` is invoked never emit the same
    bytes, whatever else they invoke (other flags, valued options, list elements, in any order
    and number).  No extra hypothesis is needed for seven of the eight kinds; for the PPTT processor
    node neither program may assign the flags field directly (`hnw`, `hnw'` — needed:
    `proc_flags_write_indistinguishable`). -/
theorem flag_distinguishable (k : Kind) (c : EArgs) (opts opts' : List Opt) (a a' : EArgs)
    (hwf : entryWf k c opts = true) (hwf' : entryWf k c opts' = true)
    (h : buildEntry k c opts = .ok a) (h' : buildEntry k c opts' = .ok a')
    (hnw : k = .proc → noFlagsWrite opts = true) (hnw' : k = .proc → noFlagsWrite opts' = true)
    (nm : String) (b : Nat) (hm : (nm, b) ∈ flagBits k) (hd : has opts nm ≠ has opts' nm) :
    entryBytes k a ≠ entryBytes k a' := by
  intro he
  obtain ⟨f, hf, hi⟩ := flag_set_iff k c opts a hwf h hnw nm b hm
  obtain ⟨f', hf', hi'⟩ := flag_set_iff k c opts' a' hwf' h' hnw' nm b hm
  rw [he, hf'] at hf
  cases hf
  exact hd (Bool.eq_iff_iff.mpr (hi.symm.trans hi'))

/-- non-vacuity (PPTT cache node): `size`+`ctype` against `ctype` alone — the hypotheses hold, … -/
example : entryWf .cache {} [⟨"size", [4096]⟩, ⟨"ctype", [2]⟩] = true ∧
    entryWf .cache {} [⟨"ctype", [2]⟩] = true ∧
    (∃ a, buildEntry .cache {} [⟨"size", [4096]⟩, ⟨"ctype", [2]⟩] = .ok a) ∧
    (∃ a', buildEntry .cache {} [⟨"ctype", [2]⟩] = .ok a') ∧
    ("size", 1) ∈ flagBits .cache ∧
    has [⟨"size", [4096]⟩, ⟨"ctype", [2]⟩] "size" ≠ has [⟨"ctype", [2]⟩] "size" :=
  ⟨by decide, by decide, ⟨_, rfl⟩, ⟨_, rfl⟩, by decide, by decide⟩

/-- … and so do those of the HMAT locality structure (the one kind with a non-zero `flagBase`) -/
example : entryWf .loc { n := #[3, 0, 0, 100, 1, 1] } [⟨"nst", []⟩, ⟨"sete", [0, 0, 7]⟩] = true ∧
    (∃ a, buildEntry .loc { n := #[3, 0, 0, 100, 1, 1] } [⟨"nst", []⟩, ⟨"sete", [0, 0, 7]⟩] = .ok a) ∧
    ("nst", 0x20) ∈ flagBits .loc ∧
    has [⟨"nst", []⟩, ⟨"sete", [0, 0, 7]⟩] "nst" ≠ has [⟨"sete", [0, 0, 7]⟩] "nst" :=
  ⟨by decide, ⟨_, rfl⟩, by decide, by decide⟩

/-! ### PPTT processor node: direct writes of the flags field -/

/-- `flag_distinguishable` for the PPTT processor node *without* the `noFlagsWrite` hypotheses … -/
def proc_flag_distinguishable_unguarded : Prop :=
  ∀ (c : EArgs) (opts opts' : List Opt) (a a' : EArgs),
    entryWf .proc c opts = true → entryWf .proc c opts' = true →
    buildEntry .proc c opts = .ok a → buildEntry .proc c opts' = .ok a' →
    ∀ nm b, (nm, b) ∈ flagBits .proc → has opts nm ≠ has opts' nm → entryBytes .proc a ≠ entryBytes .proc a'

/-- … is false: `node.flags = 1` and `node.physical()` emit the same bytes, although `physical`
    is invoked in one program and not in the other -/
theorem proc_flags_write_indistinguishable :
    (∃ a a', buildEntry .proc {} [⟨"set", [0, 1]⟩] = .ok a ∧ buildEntry .proc {} [⟨"physical", []⟩] = .ok a' ∧
      entryBytes .proc a = entryBytes .proc a') ∧
    ¬ proc_flag_distinguishable_unguarded := by
  refine ⟨⟨_, _, rfl, rfl, by decide⟩, fun H => ?_⟩
  exact H {} [⟨"set", [0, 1]⟩] [⟨"physical", []⟩] _ _ (by decide) (by decide) rfl rfl "physical" 1
    (by decide) (by decide) (by decide)

/-- PPTT processor node, bit by bit and in general: the specification bit `b` of flag option `nm`
    is set in the emitted flags dword iff the last direct write of the field had it set or `nm`
    was invoked after that write -/
theorem proc_flag_set_iff (c : EArgs) (opts : List Opt) (a : EArgs)
    (hwf : entryWf .proc c opts = true) (h : buildEntry .proc c opts = .ok a)
    (nm : String) (b : Nat) (hm : (nm, b) ∈ flagBits .proc) :
    ∃ f, readAt (entryBytes .proc a) 4 4 = some f ∧
      (f &&& b = b ↔ (lastSet opts 0 0 &&& b = b ∨ has (afterLastFlagsWrite opts) nm = true)) := by
  refine ⟨_, proc_flags_field c opts a hwf h, ?_⟩
  rw [ProcF.procFlags_eq, ← flagSum_and_eq_iff (afterLastFlagsWrite opts) _ (disjoint_flagBits .proc)
    (pairwise_of_bitsOk _ (flagBits_disjoint .proc)).2 nm b hm]
  simp only [flagBits, List.mem_cons, Prod.mk.injEq, List.not_mem_nil, or_false] at hm
  rcases hm with ⟨_, rfl⟩ | ⟨_, rfl⟩ | ⟨_, rfl⟩ | ⟨_, rfl⟩ | ⟨_, rfl⟩
  · exact or_and_pow2 _ _ 0
  · exact or_and_pow2 _ _ 1
  · exact or_and_pow2 _ _ 2
  · exact or_and_pow2 _ _ 3
  · exact or_and_pow2 _ _ 4

/-- non-vacuity of `proc_flags_field` / `proc_flag_set_iff`: `physical(); flags = 6; leaf()` gives 14
    (the write discards `physical`, `leaf` is OR-ed in afterwards) -/
example : entryWf .proc {} [⟨"physical", []⟩, ⟨"set", [0, 6]⟩, ⟨"leaf", []⟩] = true ∧
    ∃ a, buildEntry .proc {} [⟨"physical", []⟩, ⟨"set", [0, 6]⟩, ⟨"leaf", []⟩] = .ok a ∧
      readAt (entryBytes .proc a) 4 4 = some 14 ∧
      procFlags [⟨"physical", []⟩, ⟨"set", [0, 6]⟩, ⟨"leaf", []⟩] = 14 :=
  ⟨by decide, _, rfl, by decide, by decide⟩

/-- non-vacuity of the `.proc` instances of `flags_field` / `flag_distinguishable` -/
example : entryWf .proc {} [⟨"set", [1, 3]⟩, ⟨"leaf", []⟩] = true ∧ entryWf .proc {} [⟨"set", [1, 3]⟩] = true ∧
    noFlagsWrite [⟨"set", [1, 3]⟩, ⟨"leaf", []⟩] = true ∧ noFlagsWrite [⟨"set", [1, 3]⟩] = true ∧
    (∃ a, buildEntry .proc {} [⟨"set", [1, 3]⟩, ⟨"leaf", []⟩] = .ok a) ∧
    (∃ a, buildEntry .proc {} [⟨"set", [1, 3]⟩] = .ok a) ∧
    has [⟨"set", [1, 3]⟩, ⟨"leaf", []⟩] "leaf" ≠ has [⟨"set", [1, 3]⟩] "leaf" :=
  ⟨by decide, by decide, by decide, by decide, ⟨_, rfl⟩, ⟨_, rfl⟩, by decide⟩

/-- **C11, gating flags of the PPTT cache node**: the Flags dword (offset 4) is the sum, over the
    eight "… valid" bits, of the bit if and only if the corresponding value option occurs in the
    program: size 1, sets 2, associativity 4, allocation type 8, cache type 16, write policy 32,
    line size 64, cache id 128. -/
theorem cache_gating (c : EArgs) (opts : List Opt) (a : EArgs)
    (hwf : entryWf .cache c opts = true) (h : buildEntry .cache c opts = .ok a) :
    readAt (entryBytes .cache a) 4 4 =
      some ((if has opts "size" then 1 else 0) + (if has opts "sets" then 2 else 0) +
        (if has opts "assoc" then 4 else 0) + (if has opts "alloc" then 8 else 0) +
        (if has opts "ctype" then 16 else 0) + (if has opts "wp" then 32 else 0) +
        (if has opts "line" then 64 else 0) + (if has opts "id" then 128 else 0)) := by
  refine (flags_field .cache c opts a (by decide) hwf h nofun).trans ?_
  simp [flagBase, flagSum, flagBits, bit, Nat.add_assoc]

/-- the gated value fields of the PPTT cache node: each holds the last value supplied (truncated
    to the field width), and a value that was never supplied leaves its field zero — together
    with `cache_gating`: valid bit clear and field zero, or valid bit set and field = last value -/
theorem cache_gated_values (c : EArgs) (opts : List Opt) (a : EArgs)
    (hwf : entryWf .cache c opts = true) (h : buildEntry .cache c opts = .ok a)
    (nm : String) (off w : Nat)
    (hm : (nm, off, w) ∈ [("size", 12, 4), ("sets", 16, 4), ("assoc", 20, 1), ("line", 22, 2), ("id", 24, 4)]) :
    readAt (entryBytes .cache a) off w = some (lastVal opts nm 0 0 % 256 ^ w) ∧
    (has opts nm = false → readAt (entryBytes .cache a) off w = some 0) := by
  have hc := Inst.entry_rows (k := .cache) (by decide) hwf nofun h rfl
  have key : readAt (entryBytes .cache a) off w = some (lastVal opts nm 0 0 % 256 ^ w) := by
    simp only [List.mem_cons, Prod.mk.injEq, List.not_mem_nil, or_false] at hm
    rcases hm with ⟨rfl, rfl, rfl⟩ | ⟨rfl, rfl, rfl⟩ | ⟨rfl, rfl, rfl⟩ | ⟨rfl, rfl, rfl⟩ | ⟨rfl, rfl, rfl⟩ <;>
      exact conforms.at hc rfl
  refine ⟨key, fun hn => ?_⟩
  rw [key, Builder.lastVal_of_not_has opts nm 0 0 hn, Nat.zero_mod]

/-- the attributes byte of the PPTT cache node is zero when none of allocation type, cache type,
    write policy was supplied -/
theorem cache_attr_absent (c : EArgs) (opts : List Opt) (a : EArgs)
    (hwf : entryWf .cache c opts = true) (h : buildEntry .cache c opts = .ok a)
    (h1 : has opts "alloc" = false) (h2 : has opts "ctype" = false) (h3 : has opts "wp" = false) :
    readAt (entryBytes .cache a) 21 1 = some 0 := by
  rw [conforms.at (Inst.entry_rows (k := .cache) (by decide) hwf nofun h rfl) (off := 21) (w := 1) rfl]
  dsimp only
  rw [Builder.pushed_of_not_has opts _ h1, Builder.pushed_of_not_has opts _ h2, Builder.pushed_of_not_has opts _ h3]
  rfl

/-- **C11, gating flag of the GIC MSI frame**: the Flags dword (offset 16) has bit 0 ("SPI
    count/base select") set iff `spi(count, base)` was called; the count (offset 20) and base
    (offset 22) words hold the values of the last such call; without one, all three are zero. -/
theorem gicmsi_gating (c : EArgs) (opts : List Opt) (a : EArgs)
    (hwf : entryWf .gicmsi c opts = true) (h : buildEntry .gicmsi c opts = .ok a) :
    readAt (entryBytes .gicmsi a) 16 4 = some (if has opts "spi" then 1 else 0) ∧
    readAt (entryBytes .gicmsi a) 20 2 = some (lastVal opts "spi" 0 0 % 65536) ∧
    readAt (entryBytes .gicmsi a) 22 2 = some (lastVal opts "spi" 1 0 % 65536) ∧
    (has opts "spi" = false →
      readAt (entryBytes .gicmsi a) 16 4 = some 0 ∧ readAt (entryBytes .gicmsi a) 20 2 = some 0 ∧
      readAt (entryBytes .gicmsi a) 22 2 = some 0) := by
  have hc := Inst.entry_rows (k := .gicmsi) (by decide) hwf nofun h rfl
  have k1 : readAt (entryBytes .gicmsi a) 16 4 = some (if has opts "spi" then 1 else 0) := by
    refine (flags_field .gicmsi c opts a (by decide) hwf h nofun).trans ?_
    simp [flagBase, flagSum, flagBits, bit]
  have k2 : readAt (entryBytes .gicmsi a) 20 2 = some (lastVal opts "spi" 0 0 % 65536) :=
    conforms.at hc rfl
  have k3 : readAt (entryBytes .gicmsi a) 22 2 = some (lastVal opts "spi" 1 0 % 65536) :=
    conforms.at hc rfl
  refine ⟨k1, k2, k3, fun hn => ?_⟩
  rw [k1, k2, k3, Builder.lastVal_of_not_has opts _ 0 0 hn, Builder.lastVal_of_not_has opts _ 1 0 hn, hn]
  exact ⟨rfl, rfl, rfl⟩

/-- non-vacuity of `cache_gating` / `cache_gated_values` -/
example : entryWf .cache {} [⟨"size", [4096]⟩, ⟨"ctype", [2]⟩, ⟨"size", [8192]⟩] = true ∧
    ∃ a, buildEntry .cache {} [⟨"size", [4096]⟩, ⟨"ctype", [2]⟩, ⟨"size", [8192]⟩] = .ok a ∧
      readAt (entryBytes .cache a) 4 4 = some 17 ∧ readAt (entryBytes .cache a) 12 4 = some 8192 :=
  ⟨by decide, _, rfl, by decide, by decide⟩

/-- non-vacuity of `gicmsi_gating` -/
example : entryWf .gicmsi {} [⟨"set", [0, 5]⟩, ⟨"spi", [32, 64]⟩] = true ∧
    ∃ a, buildEntry .gicmsi {} [⟨"set", [0, 5]⟩, ⟨"spi", [32, 64]⟩] = .ok a ∧
      readAt (entryBytes .gicmsi a) 16 4 = some 1 ∧ readAt (entryBytes .gicmsi a) 20 2 = some 32 :=
  ⟨by decide, _, rfl, by decide, by decide⟩

end Acpi.C11
