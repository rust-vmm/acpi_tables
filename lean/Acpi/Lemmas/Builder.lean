/-
  Builder programs, independently of the entry kind.  `applyOpts` folds the builder calls in
  program order; the reference layouts give them set semantics (`has`, `bit`, `lastVal`,
  `lastSet`, `pushed`).  The bridge is stated once: whatever one reads off the builder state
  that each call transforms by some `upd` ends as `opts.foldl upd` (`applyOpts_fold`), and the
  set-semantics functions are such folds.  A kind then only has to say what one call does to
  each slot, or, where calls store values into runs of slots, which list of writes to distinct
  slots a call is (`Writes`, the notion the fixed slot tables share; `slot_writes`).
-/
import Acpi.Tables.Wf
import Acpi.Lemmas.Layout
import Acpi.Props.C11.Flags
namespace Acpi.Builder
open Spec

@[simp] theorem size_setNum (a : EArgs) (i v : Nat) : (a.setNum i v).n.size = a.n.size := by
  simp [EArgs.setNum]

@[simp] theorem size_orNum (a : EArgs) (i v : Nat) : (a.orNum i v).n.size = a.n.size :=
  size_setNum a i _

@[simp] theorem setNum_b (a : EArgs) (i v : Nat) : (a.setNum i v).b = a.b := rfl
@[simp] theorem setNum_s (a : EArgs) (i v : Nat) : (a.setNum i v).s = a.s := rfl
@[simp] theorem orNum_b (a : EArgs) (i v : Nat) : (a.orNum i v).b = a.b := rfl
@[simp] theorem orNum_s (a : EArgs) (i v : Nat) : (a.orNum i v).s = a.s := rfl

theorem num_setNum (a : EArgs) (i v j : Nat) :
    (a.setNum i v).num j = if i = j ∧ i < a.n.size then v else a.num j := by
  simp only [EArgs.setNum, EArgs.num, Array.getD_eq_getD_getElem?, Array.getElem?_setIfInBounds]
  by_cases hij : i = j
  · subst hij
    by_cases hs : i < a.n.size <;> simp [hs]
  · simp [hij]

theorem num_setNum_of_lt (a : EArgs) (i v j : Nat) (hj : j < a.n.size) :
    (a.setNum i v).num j = if i = j then v else a.num j := by
  rw [num_setNum]
  by_cases h : i = j
  · rw [if_pos ⟨h, h ▸ hj⟩, if_pos h]
  · rw [if_neg (fun hc => h hc.1), if_neg h]

theorem num_orNum (a : EArgs) (i b j : Nat) :
    (a.orNum i b).num j = if i = j ∧ i < a.n.size then a.num i ||| b else a.num j :=
  num_setNum a i _ j

/-- a call that only pushes (`{ a with s := … }`, `{ a with b := … }`) leaves the slots alone -/
@[simp] theorem num_with_b_s (a : EArgs) (b : Array Bytes) (s : List (List Nat)) (j : Nat) :
    (EArgs.mk a.n b s).num j = a.num j := rfl

theorem buildEntry_ok {k : Kind} {c a : EArgs} {opts : List Opt} (h : buildEntry k c opts = .ok a) :
    ctorPanics k c = false ∧ applyOpts k (init k c) opts = .ok a ∧ panics k a = false := by
  unfold buildEntry at h
  split at h
  · cases h
  · split at h
    · cases h
    · split at h
      · cases h
      · cases h
        exact ⟨by simpa using ‹¬ctorPanics k c = true›, ‹_›, by simpa using ‹¬panics k a = true›⟩

theorem build_unpack {k : Kind} {c a : EArgs} {opts : List Opt} (hwf : entryWf k c opts = true)
    (h : buildEntry k c opts = .ok a) :
    ctorWf k c = true ∧ (∀ o ∈ opts, optWf k o = true) ∧ ctorPanics k c = false ∧
      applyOpts k (init k c) opts = .ok a ∧ panics k a = false := by
  rw [entryWf, Bool.and_eq_true, List.all_eq_true] at hwf
  exact ⟨hwf.1, hwf.2, buildEntry_ok h⟩

/-- the builder calls `applyOpt` knows for each kind -/
def optNames : Kind → List String
  | .gicc => ["pi", "mi", "set"]
  | .gicmsi => ["set", "spi"]
  | .mem => ["en", "hp", "nv"]
  | .gi => ["en", "arch"]
  | .rintcAff => ["en", "pd"]
  | .loc => ["nst", "mtsr", "seti", "sett", "sete"]
  | .msc => ["h"]
  | .proc => ["physical", "valid", "thread", "leaf", "identical", "cache", "set"]
  | .cache => ["next", "size", "sets", "assoc", "alloc", "ctype", "wp", "line", "id"]
  | .hart => ["cmo"]
  | .cfmws => ["t2", "t3", "vol", "pers", "fixed", "target"]
  | .cxims => ["map"]
  | .aerrp | .aerdev | .aerbr | .notif => ["set"]
  | .ghes => ["set", "gas", "notif"]
  | .ghesv2 => ["set", "gas", "notif", "gas2"]
  | _ => []

/-- any other call panics: the one place where the arms of `applyOpt` are gone through.  For an
    accepted name, `applyOpt k s ⟨"name", v⟩` reduces to its arm by `rfl`. -/
theorem applyOpt_eq_none {k : Kind} {o : Opt} (h : o.name ∉ optNames k) (s : EArgs) :
    applyOpt k s o = none := by
  unfold applyOpt
  split <;> first | rfl | (exfalso; apply h; simp [optNames, *])

theorem name_mem {k : Kind} {s s' : EArgs} {o : Opt} (h : applyOpt k s o = some s') :
    o.name ∈ optNames k :=
  Decidable.byContradiction fun hn => by rw [applyOpt_eq_none hn] at h; cases h

/-- induction over a program from an arbitrary start state: an invariant of the state, a
    property `P` the calls are known to have, and a relation between the remaining calls, the
    current state and the final state -/
theorem applyOpts_ind (k : Kind) (P : Opt → Prop) (Inv : EArgs → Prop)
    (R : List Opt → EArgs → EArgs → Prop) (hnil : ∀ s, Inv s → R [] s s)
    (hstep : ∀ s o s', Inv s → P o → applyOpt k s o = some s' →
      Inv s' ∧ ∀ os a, R os s' a → R (o :: os) s a) :
    ∀ (opts : List Opt) (s a : EArgs), Inv s → (∀ o ∈ opts, P o) →
      applyOpts k s opts = .ok a → R opts s a := by
  intro opts
  induction opts with
  | nil =>
    intro s a hi _ h
    cases h
    exact hnil s hi
  | cons o os ih =>
    intro s a hi hp h
    unfold applyOpts at h
    cases hs : applyOpt k s o with
    | none => rw [hs] at h; cases h
    | some s' =>
      rw [hs] at h
      obtain ⟨hi', hr⟩ := hstep s o s' hi (hp o List.mem_cons_self) hs
      exact hr os a (ih s' a hi' (fun p hp' => hp p (List.mem_cons_of_mem _ hp')) h)

/-- **a builder program is a left fold.**  Let `obs` be anything read off a builder state (a
    numeric slot, a pushed list, …).  If every accepted call transforms it by `upd`, then
    after the whole program it is the left fold of `upd` over the calls. -/
theorem applyOpts_fold {α : Type} {k : Kind} {P : Opt → Prop} {Inv : EArgs → Prop}
    (obs : EArgs → α) (upd : α → Opt → α)
    (hstep : ∀ s o s', Inv s → P o → applyOpt k s o = some s' → Inv s' ∧ obs s' = upd (obs s) o)
    {opts : List Opt} {s a : EArgs} (hi : Inv s) (hp : ∀ o ∈ opts, P o)
    (h : applyOpts k s opts = .ok a) : Inv a ∧ obs a = opts.foldl upd (obs s) :=
  applyOpts_ind k P Inv (fun opts s a => Inv a ∧ obs a = opts.foldl upd (obs s))
    (fun _ hi => ⟨hi, rfl⟩)
    (fun s o s' hi hp h => ⟨(hstep s o s' hi hp h).1, fun os a hr => by
      rw [List.foldl_cons, ← (hstep s o s' hi hp h).2]; exact hr⟩) opts s a hi hp h

/-! ### the queries of the reference layouts (`lastVal`, `lastSet`, `has`, `bit`, `pushed`)

as folds, and when the option does not occur -/

theorem foldl_keep {α : Type} (opts : List Opt) (d : α) : opts.foldl (fun x _ => x) d = d := by
  induction opts with
  | nil => rfl
  | cons o os ih => exact ih

/-- "value `f o` of the last call satisfying `p`, else `d`": last writer wins -/
theorem foldl_last (p : Opt → Bool) (f : Opt → Nat) (opts : List Opt) (d : Nat) :
    opts.foldl (fun v o => if p o then f o else v) d = (((opts.filter p).getLast?).map f).getD d := by
  induction opts generalizing d with
  | nil => rfl
  | cons o os ih =>
    rw [List.foldl_cons, ih]
    by_cases hp : p o = true
    · rw [List.filter_cons_of_pos hp, if_pos hp, List.getLast?_cons]
      cases (os.filter p).getLast? <;> rfl
    · rw [List.filter_cons_of_neg hp, if_neg hp]

theorem last_cons (p : Opt → Bool) (f : Opt → Nat) (o : Opt) (opts : List Opt) (d : Nat) :
    ((((o :: opts).filter p).getLast?).map f).getD d =
      (((opts.filter p).getLast?).map f).getD (if p o then f o else d) := by
  rw [← foldl_last, ← foldl_last, List.foldl_cons]

theorem last_snoc (p : Opt → Bool) (f : Opt → Nat) (opts : List Opt) (o : Opt) (d : Nat) :
    ((((opts ++ [o]).filter p).getLast?).map f).getD d =
      if p o then f o else (((opts.filter p).getLast?).map f).getD d := by
  rw [← foldl_last, ← foldl_last, List.foldl_append]
  rfl

theorem foldl_lastVal (opts : List Opt) (n : String) (i d : Nat) :
    opts.foldl (fun v o => if o.name = n then o.arg i else v) d = lastVal opts n i d := by
  have := foldl_last (fun o => decide (o.name = n)) (·.arg i) opts d
  simpa only [decide_eq_true_eq, lastVal, lastOf] using this

theorem foldl_lastSet (opts : List Opt) (j d : Nat) :
    opts.foldl (fun v o => if o.name = "set" ∧ o.arg 0 = j then o.arg 1 else v) d = lastSet opts j d := by
  have := foldl_last (fun o => decide (o.name = "set" ∧ o.arg 0 = j)) (·.arg 1) opts d
  simpa only [decide_eq_true_eq, lastSet] using this

theorem foldl_mark (opts : List Opt) (n : String) (b d : Nat) :
    opts.foldl (fun v o => if o.name = n then b else v) d = if has opts n then b else d := by
  unfold has
  induction opts generalizing d with
  | nil => rfl
  | cons o os ih =>
    rw [List.foldl_cons, ih, List.any_cons]
    by_cases h : o.name = n <;> cases os.any (fun x => decide (x.name = n)) <;> simp [h]

theorem foldl_or (g : Opt → Nat) (opts : List Opt) (v : Nat) :
    opts.foldl (fun v o => v ||| g o) v = v ||| opts.foldl (fun v o => v ||| g o) 0 := by
  induction opts generalizing v with
  | nil => simp
  | cons o os ih => rw [List.foldl_cons, List.foldl_cons, ih, ih (0 ||| g o), Nat.zero_or, Nat.or_assoc]

theorem foldl_or_any (p : Opt → Bool) (b : Nat) (opts : List Opt) :
    opts.foldl (fun v o => v ||| if p o then b else 0) 0 = if opts.any p then b else 0 := by
  induction opts with
  | nil => rfl
  | cons o os ih =>
    rw [List.foldl_cons, foldl_or, ih, List.any_cons]
    cases p o <;> cases os.any p <;> simp

theorem foldl_or_bit (n : String) (b : Nat) (opts : List Opt) :
    opts.foldl (fun v o => v ||| if o.name = n then b else 0) 0 = bit opts n b := by
  have := foldl_or_any (fun o => decide (o.name = n)) b opts
  simp only [decide_eq_true_eq] at this
  exact this

theorem foldl_or_or (g h : Opt → Nat) (opts : List Opt) (u v : Nat) :
    opts.foldl (fun v o => v ||| (g o ||| h o)) (u ||| v) =
      opts.foldl (fun v o => v ||| g o) u ||| opts.foldl (fun v o => v ||| h o) v := by
  induction opts generalizing u v with
  | nil => rfl
  | cons o os ih =>
    rw [List.foldl_cons, List.foldl_cons, List.foldl_cons, ← ih]
    congr 1
    ac_rfl

theorem foldl_or_or0 (g h : Opt → Nat) (opts : List Opt) :
    opts.foldl (fun v o => v ||| (g o ||| h o)) 0 =
      opts.foldl (fun v o => v ||| g o) 0 ||| opts.foldl (fun v o => v ||| h o) 0 := by
  have := foldl_or_or g h opts 0 0
  rwa [Nat.or_self] at this

theorem foldl_or_pushed (nm : String) (f : Nat → Nat) (opts : List Opt) (u : Nat) :
    opts.foldl (fun v o => v ||| if o.name = nm then f (o.arg 0) else 0) u =
      (pushed opts nm).foldl (fun acc v => acc ||| f v) u := by
  unfold pushed
  induction opts generalizing u with
  | nil => rfl
  | cons o os ih =>
    rw [List.foldl_cons, ih]
    by_cases h : o.name = nm <;> simp [h]

theorem foldl_pushed {α : Type} (n : String) (f : Nat → α) (opts : List Opt) (l : List α) :
    opts.foldl (fun l o => if o.name = n then l ++ [f (o.arg 0)] else l) l =
      l ++ (pushed opts n).map f := by
  unfold pushed
  induction opts generalizing l with
  | nil => simp
  | cons o os ih =>
    rw [List.foldl_cons, ih]
    by_cases h : o.name = n <;> simp [h]

theorem name_ne_of_not_has {opts : List Opt} {nm : String} (h : has opts nm = false) :
    ∀ o ∈ opts, o.name ≠ nm := fun o ho => by simpa using List.any_eq_false.mp h o ho

theorem filter_name_eq_nil_of_not_has (opts : List Opt) (nm : String) (h : has opts nm = false) :
    opts.filter (fun o => decide (o.name = nm)) = [] := by
  rw [List.filter_eq_nil_iff]
  intro o ho
  simpa using name_ne_of_not_has h o ho

theorem lastVal_of_not_has (opts : List Opt) (nm : String) (i d : Nat) (h : has opts nm = false) :
    lastVal opts nm i d = d := by
  unfold lastVal lastOf
  rw [filter_name_eq_nil_of_not_has opts nm h]
  rfl

theorem pushed_of_not_has (opts : List Opt) (nm : String) (h : has opts nm = false) :
    pushed opts nm = [] := by
  unfold pushed
  rw [filter_name_eq_nil_of_not_has opts nm h]
  rfl

/-! ### flag fields

A flag field is described by a table of (option name, bit), such as `C11.flagBits k`. -/

/-- what one call contributes to the field -/
def callBits : List (String × Nat) → Opt → Nat
  | [], _ => 0
  | (n, b) :: bs, o => (if o.name = n then b else 0) ||| callBits bs o

/-- OR-ing in the bits call after call gives the reference value `C11.flagSum`, the sum of the bits
    of the options that occur: the bits are pairwise disjoint -/
theorem foldl_callBits (t : List (String × Nat)) (hd : C11.BitsDisjoint t) (opts : List Opt) :
    opts.foldl (fun v o => v ||| callBits t o) 0 = C11.flagSum opts t := by
  induction t with
  | nil => simp only [callBits, Nat.or_zero]; exact foldl_keep opts 0
  | cons p bs ih =>
    obtain ⟨hp, hbs⟩ := List.pairwise_cons.mp hd
    have := foldl_or_or0 (fun o => if o.name = p.1 then p.2 else 0) (callBits bs) opts
    rw [foldl_or_bit, ih hbs] at this
    rw [C11.flagSum_cons, add_eq_or_of_and_eq_zero _ _
      (C11.and_flagSum_eq_zero opts _ bs hbs fun q hq => C11.bit_and_eq_zero opts p.1 (hp q hq))]
    exact this

/-! ### one slot of the final state

`st` is the kind's step lemma: what one accepted call (known to satisfy `P`, usually `optWf`)
does to the state, as an invariant `Inv` and a conjunction `Q` of per-slot facts; `π` picks the
fact about the slot in question. -/

section slots
variable {k : Kind} {P : Opt → Prop} {Inv : EArgs → Prop} {Q : EArgs → Opt → EArgs → Prop}
  {opts : List Opt} {s a : EArgs}
  (hi : Inv s) (hp : ∀ o ∈ opts, P o) (h : applyOpts k s opts = .ok a)
  (st : ∀ s o s', Inv s → P o → applyOpt k s o = some s' → Inv s' ∧ Q s o s')
include hi hp h st

theorem slot_fold {α : Type} (obs : EArgs → α) (upd : α → Opt → α)
    (π : ∀ {s o s'}, Q s o s' → obs s' = upd (obs s) o) : obs a = opts.foldl upd (obs s) :=
  (applyOpts_fold obs upd (fun s o s' hi hw h => ⟨(st s o s' hi hw h).1, π (st s o s' hi hw h).2⟩)
    hi hp h).2

theorem slot_inv : Inv a :=
  applyOpts_ind k P Inv (fun _ _ a => Inv a) (fun _ hi => hi)
    (fun s o s' hi hw h => ⟨(st s o s' hi hw h).1, fun _ _ hr => hr⟩) opts s a hi hp h

/-- a condition under which the kind accepts a call holds of every call of the program -/
theorem slot_forall (C : Opt → Prop) (π : ∀ {s o s'}, Q s o s' → C o) : ∀ o ∈ opts, C o :=
  applyOpts_ind k P Inv (fun opts _ _ => ∀ o ∈ opts, C o) (fun _ _ => by simp)
    (fun s o s' hi hw h => ⟨(st s o s' hi hw h).1, fun os _ hr p hm => by
      rcases List.mem_cons.mp hm with rfl | hm
      · exact π (st s p s' hi hw h).2
      · exact hr p hm⟩) opts s a hi hp h

theorem slot_keep {α : Type} (obs : EArgs → α) (π : ∀ {s o s'}, Q s o s' → obs s' = obs s) : obs a = obs s :=
  (slot_fold hi hp h st obs (fun x _ => x) π).trans (foldl_keep ..)

theorem slot_lastVal {j : Nat} (n : String) (i : Nat)
    (π : ∀ {s o s'}, Q s o s' → s'.num j = if o.name = n then o.arg i else s.num j) :
    a.num j = lastVal opts n i (s.num j) :=
  (slot_fold hi hp h st (·.num j) _ π).trans (foldl_lastVal ..)

theorem slot_lastSet {j : Nat}
    (π : ∀ {s o s'}, Q s o s' → s'.num j = if o.name = "set" ∧ o.arg 0 = j then o.arg 1 else s.num j) :
    a.num j = lastSet opts j (s.num j) :=
  (slot_fold hi hp h st (·.num j) _ π).trans (foldl_lastSet ..)

theorem slot_or {j : Nat} (g : Opt → Nat) (π : ∀ {s o s'}, Q s o s' → s'.num j = s.num j ||| g o) :
    a.num j = s.num j ||| opts.foldl (fun v o => v ||| g o) 0 :=
  (slot_fold hi hp h st (·.num j) _ π).trans (foldl_or ..)

/-- a flag field with table `t` of (option name, bit) -/
theorem slot_flags {j : Nat} (t : List (String × Nat)) (hd : C11.BitsDisjoint t)
    (π : ∀ {s o s'}, Q s o s' → s'.num j = s.num j ||| callBits t o) :
    a.num j = s.num j ||| C11.flagSum opts t := by
  rw [slot_or hi hp h st _ π, foldl_callBits t hd]

theorem slot_pushed {α : Type} (obs : EArgs → List α) (n : String) (f : Nat → α)
    (π : ∀ {s o s'}, Q s o s' → obs s' = if o.name = n then obs s ++ [f (o.arg 0)] else obs s) :
    obs a = obs s ++ (pushed opts n).map f :=
  (slot_fold hi hp h st obs _ π).trans (foldl_pushed ..)

end slots

/-- a well-formed direct write of a PPTT field stores a `u32` -/
theorem optWf_proc_set (o : Opt) (h : optWf .proc o = true) (hn : o.name = "set") :
    o.arg 0 ∈ [0, 1, 2] ∧ o.arg 1 < 2 ^ 32 := by
  obtain ⟨nm, v⟩ := o
  cases hn
  have h' : ((settableSlots .proc).contains (Opt.arg ⟨"set", v⟩ 0) && decide (Opt.arg ⟨"set", v⟩ 1 < 2 ^ 32)) = true := h
  simp only [Bool.and_eq_true, decide_eq_true_eq, List.contains_iff_mem] at h'
  exact h'

theorem optWf_set {k : Kind} {o : Opt} (h : optWf k o = true) (hn : o.name = "set") :
    o.arg 0 ∈ settableSlots k := by
  obtain ⟨nm, v⟩ := o
  cases hn
  have : (settableSlots k).contains (Opt.arg ⟨"set", v⟩ 0) = true := by
    cases k
    case proc => simpa [settableSlots] using (optWf_proc_set _ h rfl).1
    all_goals exact h
  simpa using this

theorem lastSet_of_no_set (opts : List Opt) (j d : Nat)
    (h : ∀ o ∈ opts, o.name = "set" → o.arg 0 ≠ j) : lastSet opts j d = d := by
  rw [← foldl_lastSet]
  induction opts with
  | nil => rfl
  | cons o os ih =>
    rw [List.foldl_cons, if_neg (fun hc => h o List.mem_cons_self hc.1 hc.2)]
    exact ih fun p hp => h p (List.mem_cons_of_mem _ hp)

theorem lastSet_unsettable (k : Kind) (opts : List Opt) (hwf : opts.all (optWf k) = true) (j d : Nat)
    (hj : j ∉ settableSlots k) : lastSet opts j d = d :=
  lastSet_of_no_set opts j d fun o ho hn he =>
    hj (he ▸ optWf_set (List.all_eq_true.mp hwf o ho) hn)

/-! ### kinds whose only builder call is `set=slot.v` -/

theorem setOnly_slots {k : Kind} {N : Nat} (hn : optNames k = ["set"])
    (hset : ∀ a v, applyOpt k a ⟨"set", v⟩ = some (a.setNum (Opt.arg ⟨"set", v⟩ 0) (Opt.arg ⟨"set", v⟩ 1)))
    {opts : List Opt} {s a : EArgs} (hs : s.n.size = N) (hw : ∀ o ∈ opts, optWf k o = true)
    (h : applyOpts k s opts = .ok a) : ∀ j, j < N → a.num j = lastSet opts j (s.num j) := by
  have st : ∀ s o s', s.n.size = N → optWf k o = true → applyOpt k s o = some s' → s'.n.size = N ∧
      ∀ j, j < N → s'.num j = if o.name = "set" ∧ o.arg 0 = j then o.arg 1 else s.num j := by
    intro s o s' hs _ h
    have hm := name_mem h
    rw [hn, List.mem_singleton] at hm
    obtain ⟨nm, v⟩ := o
    cases hm
    rw [hset] at h
    obtain rfl := Option.some.inj h
    exact ⟨by simpa using hs, fun j hj => by rw [num_setNum_of_lt _ _ _ _ (hs ▸ hj)]; simp⟩
  exact fun j hj => slot_lastSet hs hw h st (· j hj)

/-- conformance of such a kind, whose settable slots are those from `lo` on: it remains to render
    the fields of a state whose slots hold their last assignments, and below `lo` (where the public
    API cannot write) their constructor values -/
theorem conforms_setOnly {k : Kind} {lo N total : Nat} {rs : List Row} {c : EArgs} {opts : List Opt}
    (hn : optNames k = ["set"])
    (hset : ∀ a v, applyOpt k a ⟨"set", v⟩ = some (a.setNum (Opt.arg ⟨"set", v⟩ 0) (Opt.arg ⟨"set", v⟩ 1)))
    (hsize : (init k c).n.size = N) (hlo : ∀ j, j < lo → j < N ∧ j ∉ settableSlots k)
    (hr : rows k c opts = some (total, rs)) (ht : tilesFrom 0 total rs = true)
    (he : ∀ a : EArgs, (∀ j, lo ≤ j → j < N → a.num j = lastSet opts j ((init k c).num j)) →
      (∀ j, j < lo → a.num j = (init k c).num j) → encFields (fields k a) = render rs)
    {a : EArgs} (hwf : entryWf k c opts = true) (h : buildEntry k c opts = .ok a) :
    layoutOracle k c opts (entryBytes k a) = none := by
  obtain ⟨-, hw, -, ha, -⟩ := build_unpack hwf h
  have hnum := setOnly_slots hn hset hsize hw ha
  rw [layoutOracle, hr]
  exact conforms_of_eq _ _ _ ht (he a (fun j _ hj => hnum j hj) fun j hj =>
    (hnum j (hlo j hj).1).trans (lastSet_unsettable k opts (List.all_eq_true.mpr hw) j _ (hlo j hj).2))

/-! ### kinds without builder calls -/

theorem build_noCalls {k : Kind} (hno : ∀ s o, applyOpt k s o = none) {c a : EArgs} {opts : List Opt}
    (h : buildEntry k c opts = .ok a) : opts = [] ∧ a = init k c := by
  have ha := (buildEntry_ok h).2.1
  cases opts with
  | nil => cases ha; exact ⟨rfl, rfl⟩
  | cons o os => rw [applyOpts, hno] at ha; cases ha

/-- a kind without builder calls whose constructor state is its arguments: the state built is the
    arguments, and neither the constructor nor serialisation refused them -/
theorem build_noCalls_init {k : Kind} (hno : ∀ s o, applyOpt k s o = none) (hinit : ∀ c, init k c = c)
    {c a : EArgs} {opts : List Opt} (h : buildEntry k c opts = .ok a) :
    a = c ∧ ctorPanics k c = false ∧ panics k c = false := by
  obtain ⟨hc, -, hp⟩ := buildEntry_ok h
  obtain ⟨-, rfl⟩ := build_noCalls hno h
  exact ⟨hinit c, hc, hinit c ▸ hp⟩

/-- the program is its constructor, so conformance is a statement about `init k c` alone: the
    rows tile, and the fields render to the rows (`entryWf` is taken only so that every arm of
    `entry_conforms` ends alike) -/
theorem conforms_noCalls {k : Kind} {c : EArgs} {total : Nat} {rs : List Row}
    (hno : ∀ s o, applyOpt k s o = none)
    (hr : rows k c [] = some (total, rs)) (ht : tilesFrom 0 total rs = true)
    (he : encFields (fields k (init k c)) = render rs)
    {opts : List Opt} {a : EArgs} (_ : entryWf k c opts = true) (h : buildEntry k c opts = .ok a) :
    layoutOracle k c opts (entryBytes k a) = none := by
  obtain ⟨rfl, rfl⟩ := build_noCalls hno h
  rw [layoutOracle, hr]
  exact conforms_of_eq _ _ _ ht he

/-! ### kinds whose only builder call pushes a value onto sub-list 0 -/

theorem pushOnly_slots {k : Kind} {n : String} (hn : optNames k = [n])
    (hpush : ∀ s v, applyOpt k s ⟨n, v⟩ = some { s with s := [s.s.getD 0 [] ++ [Opt.arg ⟨n, v⟩ 0]] })
    {opts : List Opt} {s a : EArgs} (h : applyOpts k s opts = .ok a) :
    a.n = s.n ∧ a.b = s.b ∧ a.s.getD 0 [] = s.s.getD 0 [] ++ pushed opts n := by
  have st : ∀ s o s', True → True → applyOpt k s o = some s' → True ∧ s'.n = s.n ∧ s'.b = s.b ∧
      s'.s.getD 0 [] = if o.name = n then s.s.getD 0 [] ++ [o.arg 0] else s.s.getD 0 [] := by
    intro s o s' _ _ h
    have hm := name_mem h
    rw [hn, List.mem_singleton] at hm
    obtain ⟨nm, v⟩ := o
    cases hm
    rw [hpush] at h
    obtain rfl := Option.some.inj h
    simp
  have hp : ∀ o ∈ opts, True := fun _ _ => trivial
  exact ⟨slot_keep trivial hp h st (·.n) (·.1), slot_keep trivial hp h st (·.b) (·.2.1),
    (slot_pushed trivial hp h st (·.s.getD 0 []) n id (·.2.2)).trans (by rw [List.map_id])⟩

end Acpi.Builder

/-! ### a call as a list of writes to distinct slots -/

namespace Acpi.C04
open Builder

/-- effect of one call on a slot -/
def upd (w : Option (Nat × Bool)) (x : Nat) : Nat :=
  match w with
  | none => x
  | some (v, false) => v
  | some (v, true) => x ||| v

@[simp] theorem upd_none (x : Nat) : upd none x = x := rfl
@[simp] theorem upd_set (v x : Nat) : upd (some (v, false)) x = v := rfl
@[simp] theorem upd_or (v x : Nat) : upd (some (v, true)) x = x ||| v := rfl

/-- one slot write `(slot, value, accumulate?)` -/
def applyWrite (a : EArgs) (w : Nat × Nat × Bool) : EArgs :=
  cond w.2.2 (a.orNum w.1 w.2.1) (a.setNum w.1 w.2.1)

/-- what a list of writes does to slot `i`: the first write that names it -/
def lookupWrite : List (Nat × Nat × Bool) → Nat → Option (Nat × Bool)
  | [], _ => none
  | w :: ws, i => if i = w.1 then some w.2 else lookupWrite ws i

theorem lookupWrite_none {ws : List (Nat × Nat × Bool)} {i : Nat} (h : i ∉ ws.map (·.1)) :
    lookupWrite ws i = none := by
  induction ws with
  | nil => rfl
  | cons w ws ih =>
    rw [List.map_cons, List.mem_cons, not_or] at h
    rw [lookupWrite, if_neg h.1, ih h.2]

theorem lookupWrite_append (xs ys : List (Nat × Nat × Bool)) (i : Nat) :
    lookupWrite (xs ++ ys) i = (lookupWrite xs i).or (lookupWrite ys i) := by
  induction xs with
  | nil => rfl
  | cons w xs ih => rw [List.cons_append, lookupWrite, lookupWrite, ih]; split <;> rfl

/-- a run of consecutive plain writes, as the reference states it -/
theorem lookupWrite_range (base : Nat) (f : Nat → Nat) (i : Nat) : ∀ n,
    lookupWrite ((List.range n).map fun j => (base + j, f j, false)) i =
      if base ≤ i ∧ i < base + n then some (f (i - base), false) else none := by
  intro n
  induction n with
  | zero => rw [if_neg (by omega)]; rfl
  | succ n ih =>
    rw [List.range_succ, List.map_append, lookupWrite_append, ih]
    by_cases h : i = base + n
    · subst h; rw [if_neg (by omega), if_pos (by omega), Nat.add_sub_cancel_left]; simp [lookupWrite]
    · by_cases h' : base ≤ i ∧ i < base + n
      · rw [if_pos h', if_pos (by omega)]; rfl
      · rw [if_neg h', if_neg (by omega)]; simp [lookupWrite, h]

theorem applyWrite_size (a : EArgs) (w : Nat × Nat × Bool) : (applyWrite a w).n.size = a.n.size := by
  unfold applyWrite; cases w.2.2 <;> simp

theorem applyWrite_num (a : EArgs) (w : Nat × Nat × Bool) (i : Nat) (h : w.1 < a.n.size) :
    (applyWrite a w).num i = if i = w.1 then upd (some w.2) (a.num i) else a.num i := by
  obtain ⟨k, v, b⟩ := w
  by_cases hi : i = k
  · subst hi; cases b <;> simp [applyWrite, upd, Builder.num_setNum, Builder.num_orNum, show i < a.n.size from h]
  · have : ¬ k = i := fun e => hi e.symm
    cases b <;> simp [applyWrite, Builder.num_setNum, Builder.num_orNum, hi, this]

/-- `a'` is `a` after a list of writes to distinct slots below `n`, and `w` is what they do to
    each slot -/
def Writes (n : Nat) (w : Nat → Option (Nat × Bool)) (a a' : EArgs) : Prop :=
  ∃ ws, a' = ws.foldl applyWrite a ∧ (∀ k ∈ ws.map (·.1), k < n) ∧ (ws.map (·.1)).Nodup ∧
    ∀ i, w i = lookupWrite ws i

/-- writes in order = lookup, as no slot is written twice -/
theorem Writes.num {n : Nat} {w : Nat → Option (Nat × Bool)} {a a' : EArgs} (h : Writes n w a a')
    (hs : a.n.size = n) : a'.n.size = n ∧ ∀ i, a'.num i = upd (w i) (a.num i) := by
  obtain ⟨ws, rfl, hb, hd, hw⟩ := h
  obtain rfl : w = lookupWrite ws := funext hw
  clear hw
  induction ws generalizing a with
  | nil => exact ⟨hs, fun _ => rfl⟩
  | cons x ws ih =>
    rw [List.map_cons, List.nodup_cons] at hd
    rw [List.map_cons, List.forall_mem_cons] at hb
    obtain ⟨hs', hv⟩ := ih ((applyWrite_size a x).trans hs) hb.2 hd.2
    refine ⟨hs', fun i => ?_⟩
    rw [List.foldl_cons, hv, applyWrite_num a x i (hs ▸ hb.1), lookupWrite]
    by_cases hi : i = x.1
    · rw [if_pos hi, if_pos hi, lookupWrite_none (hi ▸ hd.1)]; rfl
    · rw [if_neg hi, if_neg hi]

/-- a constructor state is the zero state after such a list of writes -/
theorem num_writes_zero {N : Nat} {ws : List (Nat × Nat × Bool)} {b : Array Bytes} {s : List (List Nat)}
    {a : EArgs} (e : ws.foldl applyWrite ⟨Array.replicate N 0, b, s⟩ = a) (hb : ∀ k ∈ ws.map (·.1), k < N)
    (hd : (ws.map (·.1)).Nodup) (i : Nat) : a.num i = upd (lookupWrite ws i) 0 := by
  have h0 : (EArgs.mk (Array.replicate N 0) b s).num i = 0 := by
    simp only [EArgs.num, Array.getD_eq_getD_getElem?, Array.getElem?_replicate]
    split <;> rfl
  rw [← h0]
  exact (Writes.num ⟨ws, e.symm, hb, hd, fun _ => rfl⟩ Array.size_replicate).2 i

/-- a run of consecutive plain writes is such a list -/
theorem Writes.range {N base n : Nat} {f : Nat → Nat} {w : Nat → Option (Nat × Bool)} {a a' : EArgs}
    (hN : base + n ≤ N) (e : ((List.range n).map fun j => (base + j, f j, false)).foldl applyWrite a = a')
    (hw : ∀ i, w i = if base ≤ i ∧ i < base + n then some (f (i - base), false) else none) :
    Writes N w a a' := by
  refine ⟨_, e.symm, ?_, ?_, fun i => (hw i).trans (lookupWrite_range base f i n).symm⟩
  · simp only [List.map_map, List.mem_map, List.mem_range]
    rintro _ ⟨j, hj, rfl⟩
    exact Nat.lt_of_lt_of_le (Nat.add_lt_add_left hj base) hN
  · rw [List.map_map]
    exact List.nodup_range.map _ fun _ _ hne he => hne (Nat.add_left_cancel he)

/-- a well-formed `set=slot.v` is one write, to a settable slot -/
theorem Writes.set {k : Kind} {N : Nat} (hslots : ∀ i ∈ settableSlots k, i < N) {o : Opt}
    (ho : optWf k o = true) (hn : o.name = "set") {w : Nat → Option (Nat × Bool)} (a : EArgs)
    (hw : ∀ i, w i = if i ∈ settableSlots k ∧ o.arg 0 = i then some (o.arg 1, false) else none) :
    Writes N w a (a.setNum (o.arg 0) (o.arg 1)) := by
  have hmem := optWf_set ho hn
  refine ⟨[(o.arg 0, o.arg 1, false)], rfl, by simpa using hslots _ hmem, by simp, fun i => ?_⟩
  rw [hw, lookupWrite, lookupWrite]
  by_cases e : i = o.arg 0
  · rw [if_pos e, if_pos ⟨e ▸ hmem, e.symm⟩]
  · rw [if_neg e, if_neg fun h => e h.2.symm]

/-- if every accepted call of a kind is such a list of writes that `W` looks up, a program leaves
    in every slot the fold of `upd` over what its calls write there -/
theorem slot_writes {k : Kind} {P : Opt → Prop} {N : Nat} {W : Opt → Nat → Option (Nat × Bool)}
    (st : ∀ s o s', P o → applyOpt k s o = some s' → Writes N (W o) s s')
    {opts : List Opt} {s a : EArgs} (hs : s.n.size = N) (hp : ∀ o ∈ opts, P o)
    (h : applyOpts k s opts = .ok a) (i : Nat) :
    a.num i = opts.foldl (fun x o => upd (W o i) x) (s.num i) :=
  slot_fold (Q := fun s o s' => ∀ i, s'.num i = upd (W o i) (s.num i)) hs hp h
    (fun s o s' hs hp h => (st s o s' hp h).num hs) (·.num i) _ (· i)

theorem upd_ite (c : Prop) [Decidable c] (v x : Nat) :
    upd (if c then some (v, false) else none) x = if c then v else x := by
  split <;> rfl

end Acpi.C04
