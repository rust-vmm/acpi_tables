/-
  C02, whole tables: Length field = image size for complete builder programs.
-/
import Acpi.Tables.Whole
import Acpi.Props.C02
import Acpi.Lemmas.Whole
namespace Acpi.C02

/-- **C02 (whole tables)**: for every table, every program whose entries stay within their Rust
    types (`entryWf`) and contain no CEDT RDPAS record (recorded finding), if the program does not
    panic then the 32-bit Length at offset 4 is the size of the emitted image (below 4 GiB). -/
theorem whole_length_field (T : TableId) (o : Oem) (ho : OemWf o) (ops : List AddOp)
    (hwf : ∀ op ∈ ops, op.k ≠ .rdpas ∧ entryWf op.k op.ctor op.opts = true)
    (hs : List Nat) (t : Tbl) (h : runTable T o ops = some (hs, t))
    (hlt : t.image.length < 2 ^ 32) :
    readAt t.image 4 4 = some t.image.length := by
  obtain ⟨-, bs, hb, hr⟩ := Whole.runTable_eq_some.mp h
  exact tbl_length_field T.cfg o (Whole.cfgWf T o ho) _ (Whole.claimed_eq ops hwf bs hb) hs t hr hlt

end Acpi.C02
