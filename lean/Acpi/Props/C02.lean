/-
  C02 — declared table length equals the number of bytes emitted (engine part).
-/
import Acpi.Tbl
import Acpi.Lemmas.Tbl
namespace Acpi.C02

/-- well-formed static parts: 4-byte signature, 6/8-byte OEM ids -/
def CfgWf (c : TblCfg) (o : Oem) : Prop := c.sig.length = 4 ∧ o.id.length = 6 ∧ o.table.length = 8

/-- with truthful claimed lengths the header's `length` is the size of the image, as a 32-bit
    number -/
theorem tbl_length_eq (c : TblCfg) (o : Oem) (hw : CfgWf c o) (es : List (Bytes × Nat))
    (hcl : ∀ e ∈ es, e.2 = e.1.length) (hs : List Nat) (t : Tbl)
    (h : runAdds (Tbl.new c o) es = some (hs, t)) : t.length = UInt32.ofNat t.image.length := by
  rw [(Ran.of_run h).length, Tbl.new_length, ← UInt32.ofNat_add,
    image_length_of_run hw.1 hw.2.1 hw.2.2 hcl h]

/-- **C02 (engine)**: if every entry's claimed length (the Rust `len()` helper) is the number
    of bytes it serialises to, then after every add history the 32-bit little-endian Length
    field at offset 4 equals the size of the image (for images below 4 GiB). -/
theorem tbl_length_field (c : TblCfg) (o : Oem) (hw : CfgWf c o) (es : List (Bytes × Nat))
    (hcl : ∀ e ∈ es, e.2 = e.1.length) (hs : List Nat) (t : Tbl)
    (h : runAdds (Tbl.new c o) es = some (hs, t)) (hlt : t.image.length < 2 ^ 32) :
    readAt t.image 4 4 = some t.image.length := by
  rw [readAt_length t ((Ran.of_run h).cfg ▸ hw.1), tbl_length_eq c o hw es hcl hs t h,
    UInt32.toNat_ofNat', Nat.mod_eq_of_lt hlt]

/-- the image of a history is exactly the header part followed by the entries in insertion order,
    and the engine's count is their number -/
theorem tbl_image_body (c : TblCfg) (o : Oem) (es : List (Bytes × Nat)) (hs : List Nat) (t : Tbl)
    (h : runAdds (Tbl.new c o) es = some (hs, t)) :
    t.image = t.head ++ (es.map Prod.fst).flatten ∧ t.count = es.length := by
  exact ⟨image_eq_of_run h, by simpa using (Ran.of_run h).count⟩

end Acpi.C02
