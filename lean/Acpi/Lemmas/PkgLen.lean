/-
  Acpi.Lemmas.PkgLen — `pkgLen` is a single byte, or a lead byte (follow-byte count in bits 7-6,
  low nybble of the length in bits 3-0) followed by the remaining nybbles little-endian; the
  specification's decoder is run once over the follow-byte count.
-/
import Acpi.Aml.PkgLen
import Acpi.Spec.PkgLength
import Acpi.Lemmas.Basic
namespace Acpi
open Spec.PkgLength

theorem pkgLenWidth_cases (c : Nat) :
    (pkgLenWidth c = 1 ∧ c < 63) ∨ (pkgLenWidth c = 2 ∧ 63 ≤ c ∧ c < 4094) ∨
    (pkgLenWidth c = 3 ∧ 4094 ≤ c ∧ c < 1048573) ∨ (pkgLenWidth c = 4 ∧ 1048573 ≤ c) := by
  unfold pkgLenWidth
  simp only [Nat.reducePow, Nat.reduceSub]
  split
  · left; omega
  · split
    · right; left; omega
    · split
      · right; right; left; omega
      · right; right; right; omega

theorem pkgLen_lead_toNat (n : Nat) (hn : n < 4) (L : Nat) :
    ((UInt8.ofNat n <<< 6) ||| UInt8.ofNat (L &&& 0xf)).toNat = 64 * n + L % 16 := by
  have : ∀ (n : Fin 4) (k : Fin 16),
      ((UInt8.ofNat n.val <<< 6) ||| UInt8.ofNat k.val).toNat = 64 * n.val + k.val := by decide
  rw [Nat.and_two_pow_sub_one_eq_mod L 4]
  exact this ⟨n, hn⟩ ⟨L % 16, Nat.mod_lt _ (by decide)⟩

theorem pkgLen_eq (c : Nat) (incl : Bool) :
    pkgLen c incl =
      if pkgLenWidth c = 1 then [UInt8.ofNat (pkgLenTotal c incl)]
      else ((UInt8.ofNat (pkgLenWidth c - 1) <<< 6) ||| UInt8.ofNat (pkgLenTotal c incl &&& 0xf)) ::
        leN (pkgLenWidth c - 1) (pkgLenTotal c incl / 16) := by
  unfold pkgLen
  rw [← Nat.shiftRight_eq_div_pow _ 4]
  rcases pkgLenWidth_cases c with ⟨w, _⟩ | ⟨w, _⟩ | ⟨w, _⟩ | ⟨w, _⟩ <;> rw [w]
  · rfl
  all_goals simp only [leN_succ_shift, leN.eq_1, ← Nat.shiftRight_add] <;> rfl

theorem Spec.PkgLength.decode_one (L : Nat) (rest : Bytes) (h : L < 64) :
    decode (UInt8.ofNat L :: rest) = some (L, 1) := by
  have e : (UInt8.ofNat L).toNat = L := UInt8.toNat_ofNat_of_lt' (Nat.lt_trans h (by decide))
  simp only [decode, e]
  rw [if_pos (by omega : L / 64 = 0), Nat.mod_eq_of_lt h]

/-- `n` follow bytes carry `L / 16`; the low nybble of `L` is in the lead byte. -/
theorem Spec.PkgLength.decode_multi (n : Nat) (h0 : n ≠ 0) (hn : n < 4) (L : Nat) (hL : L / 16 < 256 ^ n) (rest : Bytes) :
    decode (((UInt8.ofNat n <<< 6) ||| UInt8.ofNat (L &&& 0xf)) :: (leN n (L / 16) ++ rest))
      = some (L, n + 1) := by
  simp only [decode, pkgLen_lead_toNat n hn]
  have e1 : (64 * n + L % 16) / 64 = n := by omega
  have e2 : (64 * n + L % 16) / 16 % 4 = 0 := by omega
  have e3 : (64 * n + L % 16) % 16 = L % 16 := by omega
  rw [e1, if_neg h0, e2, if_neg (fun h => h rfl), if_neg (by simp), e3,
    List.take_left' (length_leN ..), fromLE_leN_of_lt hL]
  congr 2
  omega

/-- the chosen width carries the total, in both forms -/
theorem pkgLenTotal_le_maxOf (c : Nat) (incl : Bool) (h : pkgLenTotal c incl < 2 ^ 28) :
    pkgLenTotal c incl ≤ maxOf (pkgLenWidth c) := by
  unfold maxOf pkgLenTotal at *
  -- per width and form: the threshold of `pkgLenWidth` against `2 ^ (8 w - 4) - 1` (63 for `w = 1`)
  rcases pkgLenWidth_cases c with ⟨w, _⟩ | ⟨w, _, _⟩ | ⟨w, _, _⟩ | ⟨w, _⟩ <;>
    cases incl <;> simp [w] at h ⊢ <;> omega

theorem pkgLenTotal_lt_of_not_panics {c : Nat} {incl : Bool} (hp : ¬ pkgLenPanics c incl = true) :
    pkgLenTotal c incl < 2 ^ 28 :=
  Nat.lt_of_not_le fun h => hp (decide_eq_true h)

theorem pkgLen_content_lt_of_not_panics {c : Nat} {incl : Bool} (hp : ¬ pkgLenPanics c incl = true) : c < 2 ^ 28 :=
  Nat.lt_of_le_of_lt (Nat.le_add_right ..) (pkgLenTotal_lt_of_not_panics hp)

end Acpi
