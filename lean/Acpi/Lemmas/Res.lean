/-
  Resource descriptors against their reference rows (C10, and C06 for templates): flag
  arithmetic, the address-space rows `asRows` and when `addrSpace` accepts (`addrSpace_eq_some`),
  `desc_enc` (an accepted descriptor is the rendering of its rows, which tile it: `rows_tile`),
  framing (`itemSize`) and the template walk.
-/
import Acpi.Spec.Res
import Acpi.Spec.AmlWf
import Acpi.Lemmas.Layout
namespace Acpi.Spec.Res

/-- `(c << 1) | rw` for a one-bit `rw` -/
theorem shl1_or_bit (c : Nat) (p : Prop) [Decidable p] :
    (c <<< 1 ||| if p then 1 else 0) = 2 * c + (if p then 1 else 0) := by
  rw [shiftLeft_or c _ 1 (by split <;> decide)]
  omega

/-- the four interrupt flag bits: shifts and ors are the sum of the bit values -/
theorem irq_flags (p0 p1 p2 p3 : Prop) [Decidable p0] [Decidable p1] [Decidable p2] [Decidable p3] :
    ((if p3 then 1 else 0) <<< 3 ||| (if p2 then 1 else 0) <<< 2 ||| (if p1 then 1 else 0) <<< 1 |||
      (if p0 then 1 else 0) : Nat) =
    (if p0 then 1 else 0) + 2 * (if p1 then 1 else 0) + 4 * (if p2 then 1 else 0) + 8 * (if p3 then 1 else 0) := by
  by_cases h0 : p0 <;> by_cases h1 : p1 <;> by_cases h2 : p2 <;> by_cases h3 : p3 <;> simp [h0, h1, h2, h3]

/-- reference rows of an address space descriptor of `n`-byte fields: the address-space arm of
    `Res.rows` is this list by computation (`rows_tile` and `desc_enc` rely on that) -/
def asRows (n tag ty tf mn mx tr : Nat) : List Row :=
  [.num 0 1 tag, .num 1 2 (3 + 5 * n), .num 3 1 ty, .num 4 1 0x0C, .num 5 1 tf,
   .num 6 n 0, .num (6 + n) n mn, .num (6 + 2 * n) n mx, .num (6 + 3 * n) n tr, .num (6 + 4 * n) n (mx - mn + 1)]

theorem asRows_tiles (n tag ty tf mn mx tr : Nat) :
    tilesFrom 0 (6 + 5 * n) (asRows n tag ty tf mn mx tr) = true := by
  simp only [asRows, tilesFrom, Row.off, Row.width, Bool.and_eq_true, beq_iff_eq]
  refine ⟨trivial, trivial, trivial, trivial, trivial, trivial, trivial, ?_, ?_, ?_, ?_⟩ <;> omega

theorem addrSpace_eq_some {bits ty tf mn mx tr : Nat} {bs : Bytes} :
    addrSpace bits ty tf mn mx tr = some bs ↔ (mn ≤ mx ∧ mx - mn + 1 < 2 ^ bits) ∧
      bs = render (asRows (bits / 8) (if bits = 16 then 0x88 else if bits = 32 then 0x87 else 0x8A) ty tf mn mx tr) := by
  have e : render (asRows (bits / 8) (if bits = 16 then 0x88 else if bits = 32 then 0x87 else 0x8A) ty tf mn mx tr) =
      [if bits = 16 then (0x88 : UInt8) else if bits = 32 then 0x87 else 0x8A] ++ leN 2 (3 + 5 * (bits / 8)) ++
      [UInt8.ofNat ty, 0x0C, UInt8.ofNat tf] ++ intLE bits 0 ++ intLE bits mn ++ intLE bits mx ++
      intLE bits tr ++ intLE bits (mx - mn + 1) := by
    simp only [asRows, render, List.flatMap_cons, List.flatMap_nil, Row.bytes, apply_ite UInt8.ofNat, leN_one, intLE]
    simp
  unfold addrSpace
  rw [e]
  split
  · simp only [reduceCtorEq, false_iff]; omega
  · simp only [Option.some.injEq, eq_comm (a := bs)]
    exact ⟨fun h => ⟨by omega, h⟩, fun h => h.2⟩

theorem rows_tile {op : Op} {ints : List Nat} {total : Nat} {rs : List Row}
    (h : rows op ints = some (total, rs)) : tilesFrom 0 total rs = true := by
  cases op <;> cases h
  case asmem | asio | asbus => exact asRows_tiles ..
  all_goals rfl

/-- every descriptor the encoder accepts is the rendering of its reference rows -/
theorem desc_enc (op : Op) (ints : List Nat) (blobs : List Bytes) (kids : AmlList) (e : Bytes)
    (hd : Aml.isDesc op = true) (h : (Aml.node op ints blobs kids).enc = some e) : e = encode op ints := by
  cases op
  -- for a descriptor, `enc` reduces to its arm: `h` is `some _ = some e`, or an equation of `addrSpace`
  case mem32 | io | reg | irq =>
    cases h
    simp only [encode, rows, render, List.flatMap_cons, List.flatMap_nil, Row.bytes, leN_one,
      apply_ite UInt8.ofNat, irq_flags]
    simp
  -- `enc` writes the type flags of memory as `(cacheable << 1) | rw`, the reference as `2·cacheable + rw`
  case asmem =>
    have := (addrSpace_eq_some.mp h).2
    rwa [shl1_or_bit] at this
  case asio | asbus => exact (addrSpace_eq_some.mp h).2
  all_goals exact absurd hd (by decide)

theorem desc_conforms {op : Op} {ints : List Nat} {blobs : List Bytes} {kids : AmlList} {bs : Bytes}
    (hd : Aml.isDesc op = true) (h : (Aml.node op ints blobs kids).enc = some bs) {total : Nat} {rs : List Row}
    (hr : rows op ints = some (total, rs)) : conforms total rs bs = none := by
  have he := desc_enc op ints blobs kids bs hd h
  rw [encode, hr] at he
  exact conforms_of_eq _ _ _ (rows_tile hr) he

/-- a large item: tag with bit 7 set, then a 16-bit length `L`: framed as `3 + L` bytes whatever
    follows -/
theorem itemSize_large (t : UInt8) (L : Nat) (rest : Bytes) (ht : 128 ≤ t.toNat) (hL : L < 65536) :
    itemSize (t :: (leN 2 L ++ rest)) = some (false, 3 + L) := by
  simp only [itemSize]
  rw [if_pos ht, if_neg (by simp), List.take_left' (by simp), fromLE_leN]
  simp only [Option.some.injEq, Prod.mk.injEq, true_and]
  omega

theorem itemSize_pos (bs : Bytes) (e : Bool) (n : Nat) (h : itemSize bs = some (e, n)) : 0 < n := by
  unfold itemSize at h
  split at h
  · cases h
  · split at h
    · split at h
      · cases h
      · simp only [Option.some.injEq, Prod.mk.injEq] at h; omega
    · simp only [Option.some.injEq, Prod.mk.injEq] at h; omega

/-- one step over a non-final item that is framed by its own length field -/
theorem walk_item (fuel : Nat) (d rest : Bytes) (h : itemSize (d ++ rest) = some (false, d.length)) :
    walk (fuel + 1) (d ++ rest) = (walk fuel rest).map (d :: ·) := by
  have hp := itemSize_pos _ _ _ h
  cases hd : d ++ rest with
  | nil =>
    rw [List.append_eq_nil_iff] at hd
    rw [hd.1] at hp
    exact absurd hp (Nat.lt_irrefl 0)
  | cons x xs =>
    -- the equation of `walk` for a non-empty list; its side goal (last bullet) is that non-emptiness
    rw [walk, ← hd, h]
    · simp only [List.length_append, List.drop_left, List.take_left]
      rw [if_neg (by omega)]
      simp
    · simp

theorem walk_end (fuel : Nat) : walk (fuel + 1) [0x79, 0x00] = some [[0x79, 0x00]] := by
  rw [walk]
  · rfl
  · simp    -- the list is not `[]`

end Acpi.Spec.Res
