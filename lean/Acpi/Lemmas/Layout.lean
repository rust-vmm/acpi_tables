/-
  Fields and rows: the equations of `fieldsLen` and `encFields`; what `render`, `tilesFrom` and
  `conforms` say of rows in general and of the row shapes that recur (arrays of numbers, index-built
  lists and matrices, a fixed head followed by an array), among them the few membership and
  tiling facts that one fixed table or the linked programs need of those shapes.
-/
import Acpi.Tables.Build
import Acpi.Spec.Layout
import Acpi.Lemmas.Basic
import Acpi.Lemmas.LayoutAttr
namespace Acpi
open Spec

theorem num_mk (n : Array Nat) (b : Array Bytes) (s : List (List Nat)) (i : Nat) :
    (EArgs.mk n b s).num i = n[i]?.getD 0 := by simp [EArgs.num]

theorem blob_mk (n : Array Nat) (b : Array Bytes) (s : List (List Nat)) (i : Nat) :
    (EArgs.mk n b s).blob i = b[i]?.getD [] := by simp [EArgs.blob]

attribute [layout] entryBytes encFields fields init render Row.bytes Fld.bytes res gasFields gasRows
  notifFields notifRows leN_zero zeros List.replicate_succ num_mk blob_mk

theorem Fld.length_bytes (f : Fld) : f.bytes.length = f.width := by
  cases f <;> simp [Fld.bytes, Fld.width]

namespace Inst
theorem fieldsLen_nil : fieldsLen [] = 0 := rfl
end Inst

theorem fieldsLen_cons (f : Fld) (fs : List Fld) : fieldsLen (f :: fs) = f.width + fieldsLen fs := by
  simp [fieldsLen]

theorem fieldsLen_append (fs gs : List Fld) : fieldsLen (fs ++ gs) = fieldsLen fs + fieldsLen gs := by
  simp [fieldsLen]

theorem fieldsLen_map_num (w : Nat) (vs : List Nat) : fieldsLen (vs.map (Fld.num w)) = w * vs.length := by
  rw [fieldsLen, List.map_map, Nat.mul_comm, ← List.sum_replicate_nat, ← List.map_const']
  rfl

theorem encFields_cons (f : Fld) (fs : List Fld) : encFields (f :: fs) = f.bytes ++ encFields fs := by
  simp [encFields]

theorem encFields_append (fs gs : List Fld) : encFields (fs ++ gs) = encFields fs ++ encFields gs := by
  simp [encFields]

theorem encFields_map_num (w : Nat) (vs : List Nat) :
    encFields (vs.map (Fld.num w)) = vs.flatMap (leN w) := by
  simp [encFields, List.flatMap_map, Fld.bytes]

theorem encFields_map_raw (bs : List Bytes) : encFields (bs.map Fld.raw) = bs.flatten := by
  simp [encFields, List.flatMap_map, Fld.bytes, List.flatMap_id']

theorem encFields_flatMap {α : Type} (l : List α) (f : α → List Fld) :
    encFields (l.flatMap f) = (l.map fun x => encFields (f x)).flatten := by
  rw [encFields, List.flatMap_assoc, List.flatMap_def]; rfl

theorem length_encFields (fs : List Fld) : (encFields fs).length = fieldsLen fs := by
  induction fs with
  | nil => rfl
  | cons f fs ih => rw [encFields_cons, List.length_append, fieldsLen_cons, ih, Fld.length_bytes]

theorem Spec.bdf_eq_bdfOf (bus dev fn : Nat) (hb : bus < 256) (hd : dev < 32) (hf : fn < 8) :
    bdf bus dev fn = bdfOf bus dev fn := by
  unfold bdf bdfOf
  rw [Nat.or_assoc, shiftLeft_or dev fn 3 hf, shiftLeft_or bus _ 8 (by omega)]
  omega

end Acpi

namespace Acpi.Spec

@[simp] theorem Row.length_bytes (r : Row) : r.bytes.length = r.width := by
  cases r <;> simp [Row.bytes, Row.width]

theorem render_cons (r : Row) (rs : List Row) : render (r :: rs) = r.bytes ++ render rs := rfl

theorem render_append (rs rs' : List Row) : render (rs ++ rs') = render rs ++ render rs' := by
  simp [render]

theorem tilesFrom_length (pos total : Nat) (rs : List Row) (h : tilesFrom pos total rs = true) :
    pos + (render rs).length = total := by
  induction rs generalizing pos with
  | nil => simp [tilesFrom] at h; simp [render, h]
  | cons r rs ih =>
    simp only [tilesFrom, Bool.and_eq_true] at h
    have := ih (pos + r.width) h.2
    simp only [render_cons, List.length_append, Row.length_bytes]
    omega

theorem tilesFrom_append (pos mid total : Nat) (rs rs' : List Row)
    (h1 : tilesFrom pos mid rs = true) (h2 : tilesFrom mid total rs' = true) :
    tilesFrom pos total (rs ++ rs') = true := by
  induction rs generalizing pos with
  | nil =>
    simp only [tilesFrom, beq_iff_eq] at h1
    subst h1
    exact h2
  | cons r rs ih =>
    simp only [tilesFrom, Bool.and_eq_true, List.cons_append] at h1 ⊢
    exact ⟨h1.1, ih _ h1.2⟩

/-- an image conforms exactly when the rows tile it and it is their bytes in offset order (the
    size requirement follows from the two) -/
theorem conforms_none_iff (total : Nat) (rs : List Row) (img : Bytes) :
    conforms total rs img = none ↔ tilesFrom 0 total rs = true ∧ img = render rs := by
  unfold conforms tiles
  constructor
  · intro h
    split at h
    · cases h
    · split at h
      · cases h
      · rename_i ht
        split at h
        · exact ⟨by simpa using ht, ‹_›⟩
        · split at h <;> cases h
  · rintro ⟨ht, he⟩
    have hl := tilesFrom_length 0 total rs ht
    rw [if_neg (by rw [he]; omega), if_neg (by simp [ht]), if_pos he]

theorem conforms_of_eq (total : Nat) (rs : List Row) (img : Bytes)
    (ht : tilesFrom 0 total rs = true) (he : img = render rs) : conforms total rs img = none :=
  (conforms_none_iff total rs img).mpr ⟨ht, he⟩

/-- the rows `rs` cover `[pos, total)` without gap or overlap, and `bs` are their bytes in offset
    order: a stretch of a layout with what it stands for.  Conformance is the stretch `[0, total)`. -/
def Lays (pos total : Nat) (rs : List Row) (bs : Bytes) : Prop :=
  tilesFrom pos total rs = true ∧ bs = render rs

theorem Lays.conforms {total : Nat} {rs : List Row} {img : Bytes} (h : Lays 0 total rs img) :
    conforms total rs img = none :=
  conforms_of_eq _ _ _ h.1 h.2

theorem Lays.append {pos mid total : Nat} {rs rs' : List Row} {bs bs' : Bytes}
    (h : Lays pos mid rs bs) (h' : Lays mid total rs' bs') : Lays pos total (rs ++ rs') (bs ++ bs') :=
  ⟨tilesFrom_append _ _ _ _ _ h.1 h'.1, by rw [render_append, ← h.2, ← h'.2]⟩

theorem rowHolds_of_tiles (pos total : Nat) (pre : Bytes) (rs : List Row) (hp : pre.length = pos)
    (ht : tilesFrom pos total rs = true) : ∀ r ∈ rs, rowHolds (pre ++ render rs) r = true := by
  induction rs generalizing pos pre with
  | nil => simp
  | cons r rs ih =>
    simp only [tilesFrom, Bool.and_eq_true, beq_iff_eq] at ht
    intro x hx
    simp only [List.mem_cons] at hx
    rcases hx with rfl | hx
    · simp only [rowHolds, render, List.flatMap_cons, Bool.and_eq_true, decide_eq_true_eq, beq_iff_eq]
      constructor
      · simp; omega
      · rw [ht.1, ← hp, List.drop_left]
        rw [List.take_left' (by simp)]
    · have := ih (pos + r.width) (pre ++ r.bytes) (by simp [hp]) ht.2 x hx
      simpa [render, List.append_assoc] using this

/-- `tilesFrom` only looks at offsets and widths -/
def tilesP : Nat → Nat → List (Nat × Nat) → Bool
  | pos, total, [] => pos == total
  | pos, total, p :: ps => p.1 == pos && tilesP (pos + p.2) total ps

theorem tilesFrom_eq_tilesP (pos total : Nat) (rs : List Row) :
    tilesFrom pos total rs = tilesP pos total (rs.map fun r => (r.off, r.width)) := by
  induction rs generalizing pos with
  | nil => rfl
  | cons r rs ih => simp only [tilesFrom, List.map_cons, tilesP, ih]

theorem lays_rangeRows (base w n : Nat) (f : Nat → Nat) :
    Lays base (base + w * n) ((List.range n).map fun i => Row.num (base + w * i) w (f i))
      (((List.range n).map f).flatMap (leN w)) := by
  induction n with
  | zero => exact ⟨by simp [tilesFrom], rfl⟩
  | succ n ih =>
    rw [List.range_succ, List.map_append, List.map_append, List.flatMap_append, Nat.mul_succ, ← Nat.add_assoc]
    exact ih.append ⟨by simp [tilesFrom, Row.off, Row.width], by simp [render, Row.bytes]⟩

theorem lays_matrix (base w I T : Nat) (h : Nat → Nat → Nat) :
    Lays base (base + w * (I * T))
      ((List.range I).flatMap fun i => (List.range T).map fun j => Row.num (base + w * (i * T + j)) w (h i j))
      (((List.range I).flatMap fun i => (List.range T).map (h i)).flatMap (leN w)) := by
  induction I with
  | zero => exact ⟨by simp [tilesFrom], rfl⟩
  | succ I ih =>
    rw [List.range_succ, List.flatMap_append, List.flatMap_append, List.flatMap_append, Nat.succ_mul,
      Nat.mul_add, ← Nat.add_assoc]
    refine ih.append ?_
    simp only [List.flatMap_cons, List.flatMap_nil, List.append_nil]
    have e : (fun j => Row.num (base + w * (I * T + j)) w (h I j)) =
        (fun j => Row.num (base + w * (I * T) + w * j) w (h I j)) := by
      funext j; rw [Nat.mul_add, Nat.add_assoc]
    rw [e]
    exact lays_rangeRows _ _ _ _

theorem range_mul_map (I T : Nat) (g : Nat → Nat) :
    (List.range (I * T)).map g = (List.range I).flatMap (fun i => (List.range T).map (fun j => g (i * T + j))) := by
  induction I with
  | zero => simp
  | succ I ih =>
    rw [Nat.succ_mul, List.range_add, List.map_append, ih, List.range_succ, List.flatMap_append]
    simp [List.map_map, Function.comp_def]

theorem cell_index_inj (T a b i j : Nat) (hb : b < T) (hj : j < T) :
    a * T + b = i * T + j ↔ a = i ∧ b = j := by
  constructor
  · intro h
    have h1 : (a * T + b) / T = a := by
      rw [Nat.mul_comm, Nat.mul_add_div (by omega), Nat.div_eq_of_lt hb, Nat.add_zero]
    have h2 : (i * T + j) / T = i := by
      rw [Nat.mul_comm, Nat.mul_add_div (by omega), Nat.div_eq_of_lt hj, Nat.add_zero]
    have hai : a = i := by rw [← h1, ← h2, h]
    subst hai
    exact ⟨rfl, by omega⟩
  · rintro ⟨rfl, rfl⟩; rfl

theorem cells_eq_grid (cells : List Nat) (k : Nat) (f : Nat → Nat → Nat) (hl : cells.length = k * k)
    (hc : ∀ i j, i < k → j < k → cells.getD (i * k + j) 0 = f i j) :
    cells = (List.range k).flatMap fun i => (List.range k).map (f i) := by
  conv => lhs; rw [← range_map_getD cells 0 hl, range_mul_map]
  rw [List.flatMap_def, List.flatMap_def]
  congr 1
  apply List.map_congr_left
  intro i hi
  apply List.map_congr_left
  intro j hj
  exact hc i j (List.mem_range.mp hi) (List.mem_range.mp hj)

theorem arrayRows_eq (base stride w : Nat) (vs : List Nat) :
    arrayRows base stride w vs =
      (List.range vs.length).map fun i => Row.num (base + stride * i) w (vs.getD i 0) := by
  apply List.ext_getElem
  · simp [arrayRows]
  · intro i h1 h2
    simp [arrayRows, List.getD_eq_getElem?_getD, (by simpa [arrayRows] using h1 : i < vs.length)]

theorem lays_arrayRows (base w : Nat) (vs : List Nat) :
    Lays base (base + w * vs.length) (arrayRows base w w vs) (vs.flatMap (leN w)) := by
  have := lays_rangeRows base w vs.length (vs.getD · 0)
  rwa [← arrayRows_eq, range_map_getD vs 0 rfl] at this

theorem mem_arrayRows (base stride w : Nat) (vs : List Nat) (i v : Nat) (h : vs[i]? = some v) :
    Row.num (base + stride * i) w v ∈ arrayRows base stride w vs := by
  unfold arrayRows
  apply List.mem_of_getElem? (i := i)
  rw [List.getElem?_mapIdx, h]
  rfl

theorem mem_idmapRows_dst (base : Nat) (s : List (List Nat)) (i : Nat) (t : List Nat) (v : Nat)
    (ht : s[i]? = some t) (hv : t[3]? = some v) :
    Row.num (base + 20 * i + 12) 4 v ∈
      (List.range s.length).flatMap fun i => idmapRows (base + 20 * i) (s.getD i []) := by
  refine List.mem_flatMap.mpr ⟨i, List.mem_range.mpr (List.getElem?_eq_some_iff.mp ht).1, ?_⟩
  rw [List.getD_eq_getElem?_getD, ht]
  simp [idmapRows, hv]

theorem conforms_head_array (N w : Nat) (head : List Row) (hf : List Fld) (vs : List Nat)
    (ht : tilesFrom 0 N head = true) (he : encFields hf = render head) :
    conforms (N + w * vs.length) (head ++ arrayRows N w w vs) (encFields (hf ++ vs.map (Fld.num w))) = none := by
  rw [encFields_append, encFields_map_num]
  exact (Lays.append ⟨ht, he⟩ (lays_arrayRows N w vs)).conforms

end Acpi.Spec
