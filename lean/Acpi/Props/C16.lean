/-
  C16 — EISA identifiers and UUIDs are encoded per the ACPI compression rules.
  Model: Acpi.Aml.Eisa (mirror of `EISAName::new`, `Uuid::new`); spec: Acpi.Spec.Eisa.
-/
import Acpi.Aml.Eisa
import Acpi.Spec.Eisa
import Acpi.Spec.Int
import Acpi.Props.C08
import Acpi.Lemmas.Eisa
namespace Acpi.C16
open Spec.Eisa Lemmas.Eisa

/-- the i-th upper-case letter -/
def letter (i : Fin 26) : Char := Char.ofNat (65 + i.val)

/-- a spelling of the hex digit `d`: `0-9`, and `A-F` or `a-f` according to `upper` -/
def hexCh (d : Fin 16) (upper : Bool) : Char :=
  if d.val < 10 then Char.ofNat (48 + d.val)
  else if upper then Char.ofNat (55 + d.val) else Char.ofNat (87 + d.val)

/-- **C16 (EISA, acceptance)**: `EISAName::new` does not panic iff each of its eight checks passes. -/
theorem eisaValue_isSome_iff (bytes : Bytes) (chars : List Char) :
    (eisaValue bytes chars).isSome ↔ bytes.length = 7 ∧
      (subBase bytes[0]!).isSome ∧ (subBase bytes[1]!).isSome ∧ (subBase bytes[2]!).isSome ∧
      (chars[3]?.bind toDigit16).isSome ∧ (chars[4]?.bind toDigit16).isSome ∧
      (chars[5]?.bind toDigit16).isSome ∧ (chars[6]?.bind toDigit16).isSome := by
  unfold eisaValue
  split
  · next h => exact ⟨(fun h' => nomatch h'), fun h' => absurd h'.1 h⟩
  · next h =>
    rw [Decidable.not_not.mp h, eq_self, true_and]
    refine bind_isSome_iff fun _ => bind_isSome_iff fun _ => bind_isSome_iff fun _ => bind_isSome_iff fun _ =>
      bind_isSome_iff fun _ => bind_isSome_iff fun _ => ?_
    cases chars[6]?.bind toDigit16 <;> exact Iff.rfl

/-- **C16 refusal (EISA)**: a string whose byte length is not 7 is refused. -/
theorem eisa_wrong_length (bytes : Bytes) (chars : List Char) (h : bytes.length ≠ 7) :
    eisaValue bytes chars = none :=
  Option.not_isSome_iff_eq_none.mp fun hs => h ((eisaValue_isSome_iff ..).mp hs).1

/-- **C16 refusal (EISA)**: a non-hex character (or none at all) at any of the four digit
    positions is refused. -/
theorem eisa_nonhex (bytes : Bytes) (chars : List Char) (k : Nat) (hk : k = 3 ∨ k = 4 ∨ k = 5 ∨ k = 6)
    (h : (chars[k]?).bind toDigit16 = none) : eisaValue bytes chars = none := by
  refine Option.not_isSome_iff_eq_none.mp fun hs => ?_
  obtain ⟨_, _, _, _, h3, h4, h5, h6⟩ := (eisaValue_isSome_iff ..).mp hs
  rcases hk with rfl | rfl | rfl | rfl <;> simp [h] at h3 h4 h5 h6

/-- the emitted object is the integer constant of the compressed value -/
theorem eisa_emits_integer (bytes : Bytes) (chars : List Char) (v : UInt32)
    (h : eisaValue bytes chars = some v) : eisaEnc bytes chars = some (Spec.Int.enc v.toNat) := by
  simp [eisaEnc, h, C08.encU32_spec]

/-- **C16 refusal (UUID)**: a string that is not 36 characters long is refused. -/
theorem uuid_wrong_length (cs : List Char) (h : cs.length ≠ 36) : uuidBytes cs = none :=
  Option.eq_none_iff_forall_ne_some.mpr fun _ hv => h ((uuidBytes_eq_some_iff_pairs ..).mp hv).1

/-- **C16 refusal (UUID)**: a separator missing at 8, 13, 18 or 23 is refused. -/
theorem uuid_misplaced_dash (cs : List Char)
    (h : cs[8]! ≠ '-' ∨ cs[13]! ≠ '-' ∨ cs[18]! ≠ '-' ∨ cs[23]! ≠ '-') : uuidBytes cs = none := by
  refine Option.eq_none_iff_forall_ne_some.mpr fun _ hv => ?_
  obtain ⟨_, ⟨h8, h13, h18, h23⟩, _⟩ := (uuidBytes_eq_some_iff_pairs ..).mp hv
  rcases h with h | h | h | h <;> contradiction

theorem letter_range : ∀ l : Fin 26, 64 ≤ (letter l).toNat ∧ (letter l).toNat < 96 := by
  decide

theorem toDigit16_hexCh : ∀ (d : Fin 16) (u : Bool),
    toDigit16 (hexCh d u) = some (UInt32.ofNat d.val) := by
  decide +kernel

theorem hexVal_hexCh (d : Fin 16) (u : Bool) : hexVal (hexCh d u) = d.val := by
  rw [← (toDigit16_val _ _ (toDigit16_hexCh d u)).1, UInt32.toNat_ofNat']
  exact Nat.mod_eq_of_lt (Nat.lt_trans d.isLt (by decide))

theorem hexUpper_eq (d : Fin 16) : hexUpper d.val = hexCh d true := by
  revert d; decide +kernel

/-- **C16 (EISA)**: every canonical id (three letters A–Z, four hex digits in either case) is
    accepted, and the 32-bit value decompresses, by the specification's rule, to the same id
    (digits upper-cased). -/
theorem eisa_roundtrip (l1 l2 l3 : Fin 26) (d1 d2 d3 d4 : Fin 16) (u1 u2 u3 u4 : Bool) :
    ∃ v : UInt32,
      eisaValue (asciiBytes [letter l1, letter l2, letter l3, hexCh d1 u1, hexCh d2 u2, hexCh d3 u3, hexCh d4 u4])
        [letter l1, letter l2, letter l3, hexCh d1 u1, hexCh d2 u2, hexCh d3 u3, hexCh d4 u4] = some v ∧
      decompress v.toNat =
        [letter l1, letter l2, letter l3, hexCh d1 true, hexCh d2 true, hexCh d3 true, hexCh d4 true] := by
  have hs (d : Fin 16) (u : Bool) : (toDigit16 (hexCh d u)).isSome := by rw [toDigit16_hexCh]; rfl
  have hv (d : Fin 16) (u : Bool) : hexVal (hexCh d u) < 16 := by rw [hexVal_hexCh]; exact d.isLt
  obtain ⟨v, hv', e⟩ := eisaValue_compress _ _ _ _ _ _ _ (letter_range l1) (letter_range l2) (letter_range l3)
    (hs d1 u1) (hs d2 u2) (hs d3 u3) (hs d4 u4)
  refine ⟨v, hv', ?_⟩
  rw [e, decompress_compress _ _ _ _ _ _ _ (letter_range l1) (letter_range l2) (letter_range l3)
    (hv d1 u1) (hv d2 u2) (hv d3 u3) (hv d4 u4)]
  simp only [hexVal_hexCh, hexUpper_eq]

/-- a valid UUID string: 32 hex digits `ds` (spelled per `us`) with dashes at 8, 13, 18, 23 -/
def uuidString (ds : Fin 32 → Fin 16) (us : Fin 32 → Bool) : List Char :=
  [hexCh (ds ⟨0, by decide⟩) (us ⟨0, by decide⟩), hexCh (ds ⟨1, by decide⟩) (us ⟨1, by decide⟩),
   hexCh (ds ⟨2, by decide⟩) (us ⟨2, by decide⟩), hexCh (ds ⟨3, by decide⟩) (us ⟨3, by decide⟩),
   hexCh (ds ⟨4, by decide⟩) (us ⟨4, by decide⟩), hexCh (ds ⟨5, by decide⟩) (us ⟨5, by decide⟩),
   hexCh (ds ⟨6, by decide⟩) (us ⟨6, by decide⟩), hexCh (ds ⟨7, by decide⟩) (us ⟨7, by decide⟩),
   '-', hexCh (ds ⟨8, by decide⟩) (us ⟨8, by decide⟩),
   hexCh (ds ⟨9, by decide⟩) (us ⟨9, by decide⟩), hexCh (ds ⟨10, by decide⟩) (us ⟨10, by decide⟩),
   hexCh (ds ⟨11, by decide⟩) (us ⟨11, by decide⟩), '-',
   hexCh (ds ⟨12, by decide⟩) (us ⟨12, by decide⟩), hexCh (ds ⟨13, by decide⟩) (us ⟨13, by decide⟩),
   hexCh (ds ⟨14, by decide⟩) (us ⟨14, by decide⟩), hexCh (ds ⟨15, by decide⟩) (us ⟨15, by decide⟩),
   '-', hexCh (ds ⟨16, by decide⟩) (us ⟨16, by decide⟩),
   hexCh (ds ⟨17, by decide⟩) (us ⟨17, by decide⟩), hexCh (ds ⟨18, by decide⟩) (us ⟨18, by decide⟩),
   hexCh (ds ⟨19, by decide⟩) (us ⟨19, by decide⟩), '-',
   hexCh (ds ⟨20, by decide⟩) (us ⟨20, by decide⟩), hexCh (ds ⟨21, by decide⟩) (us ⟨21, by decide⟩),
   hexCh (ds ⟨22, by decide⟩) (us ⟨22, by decide⟩), hexCh (ds ⟨23, by decide⟩) (us ⟨23, by decide⟩),
   hexCh (ds ⟨24, by decide⟩) (us ⟨24, by decide⟩), hexCh (ds ⟨25, by decide⟩) (us ⟨25, by decide⟩),
   hexCh (ds ⟨26, by decide⟩) (us ⟨26, by decide⟩), hexCh (ds ⟨27, by decide⟩) (us ⟨27, by decide⟩),
   hexCh (ds ⟨28, by decide⟩) (us ⟨28, by decide⟩), hexCh (ds ⟨29, by decide⟩) (us ⟨29, by decide⟩),
   hexCh (ds ⟨30, by decide⟩) (us ⟨30, by decide⟩), hexCh (ds ⟨31, by decide⟩) (us ⟨31, by decide⟩)]

theorem hex2byte_hexCh (d1 d2 : Fin 16) (u1 u2 : Bool) :
    hex2byte (hexCh d1 u1) (hexCh d2 u2) = some (UInt8.ofNat (16 * d1.val + d2.val)) := by
  rw [hex2byte_val (by rw [toDigit16_hexCh]; rfl) (by rw [toDigit16_hexCh]; rfl), hexVal_hexCh, hexVal_hexCh]

theorem byteLower_hexCh (d1 d2 : Fin 16) :
    byteLower (UInt8.ofNat (16 * d1.val + d2.val)) = [hexCh d1 false, hexCh d2 false] := by
  have h1 := d1.isLt
  have h2 := d2.isLt
  unfold byteLower
  rw [UInt8.toNat_ofNat_of_lt' (by show _ < 256; omega), show (16 * d1.val + d2.val) / 16 = d1.val by omega,
    show (16 * d1.val + d2.val) % 16 = d2.val by omega]
  rfl

/-- **C16 (UUID)**: every canonical 36-character UUID string (either letter case) is accepted,
    the buffer has 16 bytes, and reading it back in ToUUID order gives the same UUID in
    lower case. -/
theorem uuid_roundtrip (ds : Fin 32 → Fin 16) (us : Fin 32 → Bool) :
    ∃ b : Bytes, uuidBytes (uuidString ds us) = some b ∧ b.length = 16 ∧
      uuidOfBuffer b = some (uuidString ds (fun _ => false)) := by
  unfold uuidBytes
  rw [if_neg (by intro h; exact h rfl), if_neg (by intro h; rcases h with h | h | h | h <;> exact h rfl)]
  simp only [uuidString, List.getElem!_cons_zero, List.getElem!_cons_succ, hex2byte_hexCh]
  simp only [List.mapM_cons, List.mapM_nil, id_eq, Option.pure_def, Option.bind_eq_bind, Option.bind_some]
  refine ⟨_, rfl, rfl, ?_⟩
  simp only [uuidOfBuffer, byteLower_hexCh, List.cons_append, List.nil_append]

/-- **C16 refusal (UUID)**: a non-hex character at any of the 32 digit positions is refused. -/
theorem uuid_nonhex (cs : List Char) (k : Nat) (hk : k < 36) (hd : k ≠ 8 ∧ k ≠ 13 ∧ k ≠ 18 ∧ k ≠ 23)
    (h : toDigit16 cs[k]! = none) : uuidBytes cs = none := by
  refine Option.eq_none_iff_forall_ne_some.mpr fun b hv => ?_
  -- some pair reads position `k`; its `hex2byte` is an entry of `b.map some`, so both digits convert
  obtain ⟨p, hp, hpk⟩ := uuidPairs_cover ⟨k, hk⟩ hd
  have hm : hex2byte cs[p.1]! cs[p.2]! ∈ b.map some := by
    rw [← ((uuidBytes_eq_some_iff_pairs ..).mp hv).2.2]
    exact List.mem_map.mpr ⟨p, hp, rfl⟩
  obtain ⟨x, _, hx⟩ := List.mem_map.mp hm
  obtain ⟨h1, h2⟩ := (hex2byte_isSome_iff ..).mp (by rw [← hx]; rfl)
  rcases hpk with e | e
  · rw [show p.1 = k from e, h] at h1; cases h1
  · rw [show p.2 = k from e, h] at h2; cases h2

end Acpi.C16
