/-
  C02 — declared length = bytes emitted, for the fixed tables.
-/
import Acpi.Lemmas.FixedImage
namespace Acpi.C02

def OemWf (o : Oem) : Prop := o.id.length = 6 ∧ o.table.length = 8

/-- **C02 (fixed tables)**: the Length field at offset 4 equals the image size (FADT 276, BERT 48,
    SPCR 90, TCPA 50/100, TPM2 52/76, SLIT 44 + n², FACS 64), after every program. -/
theorem fixed_length_field (t : FixedT) (o : Oem) (c : EArgs) (ops : List Opt) (s : FixedState)
    (ho : OemWf o) (ht : t ≠ .rsdp) (hrun : runFixed t o c ops = some s) :
    readAt s.image 4 4 = some s.image.length := by
  by_cases hf : t = .facs
  · subst hf
    obtain ⟨_, rfl⟩ := runFixed_plain (by simp [FixedT.plain]) hrun
    rfl
  · exact (image_sdt ⟨hf, ht⟩ hrun).length_field ho.1 ho.2

/-- **C02 (RSDP)**: 36 at offset 20, and 36 bytes emitted. -/
theorem rsdp_length_field (o : Oem) (c : EArgs) (ops : List Opt) (s : FixedState) (ho : OemWf o)
    (hrun : runFixed .rsdp o c ops = some s) :
    readAt s.image 20 4 = some 36 ∧ s.image.length = 36 := by
  obtain ⟨k, e, hi, _, _⟩ := rsdp_image hrun
  obtain ⟨l20, l36⟩ := length_rsdp o c k e ho.1
  rw [hi]
  refine ⟨?_, l36⟩
  unfold rsdpRest
  rw [List.append_assoc (u32le 36), ← List.append_assoc,
    readAt_mid _ _ _ _ _ l20.symm (length_u32le _).symm]
  rfl

end Acpi.C02
