/-
  C13 — the generic table (`sdt::Sdt`) behaves as a byte vector with a self-maintaining
  header.

  Model: Acpi/Sdt.lean (mirrors src/sdt.rs).  Reference machine: Acpi/Spec/Sdt.lean (a
  plain `Bytes`, one pointwise overwrite, Length rewritten on every append, byte 9 fixed
  after every accepted operation).  One step of the model is the reference machine's step on
  the contents, through `act` (`step_eq`, a rewrite rule); what follows it are facts about the
  reference machine, by its four kinds of action.  Helper lemmas live in Acpi/Lemmas/Sdt.lean.

  One precision the statement needs: bytes pushed through the sink interface are an
  append of *those bytes*; a sink call that carries no byte (`vec(&[])`) performs no
  `byte` call at all, so it is not an operation (nothing is rewritten, in particular not a
  Length field the user has overwritten).  `isAppend` below therefore excludes it.
-/
import Acpi.Lemmas.Sdt
namespace Acpi.C13
open Acpi.Sdt
open Acpi.Spec.Sdt (put fixSum)

/-- What each operation of the model means for the reference machine.  Typed values are
    described arithmetically (`leN w n`: the number `n`, little-endian, in `w` bytes). -/
def act : Sdt.Op → Spec.Sdt.Act
  | .append8 v => .append (leN 1 v.toNat)
  | .append16 v => .append (leN 2 v.toNat)
  | .append32 v => .append (leN 4 v.toNat)
  | .append64 v => .append (leN 8 v.toNat)
  | .appendSlice bs => .append bs
  | .write8 off v => .write off (leN 1 v.toNat)
  | .write16 off v => .write off (leN 2 v.toNat)
  | .write32 off v => .write off (leN 4 v.toNat)
  | .write64 off v => .write off (leN 8 v.toNat)
  | .writeSlice off bs => .write off bs
  | .sink c => .push c.bytes
  | .updateChecksum => .touch

/-- The invariant of every table obtained from `Sdt.new`. -/
def Inv (s : Sdt) : Prop := 36 ≤ s.data.length ∧ sum8 s.data = 0

/-- the range `(offset, width)` a write operation touches -/
def writeRange : Sdt.Op → Option (Nat × Nat)
  | .write8 off _ => some (off, 1)
  | .write16 off _ => some (off, 2)
  | .write32 off _ => some (off, 4)
  | .write64 off _ => some (off, 8)
  | .writeSlice off bs => some (off, bs.length)
  | _ => none

/-- append-type operations: typed, slice (including the empty slice), and sink calls that
    carry at least one byte -/
def isAppend : Sdt.Op → Bool
  | .append8 _ | .append16 _ | .append32 _ | .append64 _ | .appendSlice _ => true
  | .sink c => c.bytes ≠ []
  | _ => false

/-! ## (a) refinement -/

theorem Inv.lengthField_in_range {s : Sdt} (hi : Inv s) : 8 ≤ s.data.length :=
  Nat.le_trans (by decide) hi.1

theorem step_eq (s : Sdt) (h : 8 ≤ s.data.length) (op : Sdt.Op) :
    s.step op = (Spec.Sdt.step s.data (act op)).map Sdt.mk := by
  -- right to left: the model's `[v]`, `u16le v` … are brought into the `leN` form `act` uses
  cases op <;>
    simp only [Sdt.step, act, ← leN_one_toNat, ← u16le_eq_leN, ← u32le_eq_leN, ← u64le_eq_leN,
      writeBytes_spec, appendT_spec _ _ h, appendSlice_spec _ _ h, sink_feed1 _ _ h,
      updateChecksum_eq] <;> rfl

theorem spec_step_inv {v v' : Bytes} {a : Spec.Sdt.Act} (hi : Inv ⟨v⟩)
    (h : Spec.Sdt.step v a = some v') : Inv ⟨v'⟩ := by
  obtain rfl | ⟨w, hw, rfl⟩ := spec_step_shape h
  · exact hi
  · have : 36 ≤ v.length := hi.1
    exact ⟨by simp only [length_fixSum]; omega, sum8_fixSum _ (by omega)⟩

theorem inv_step (s s' : Sdt) (op : Sdt.Op) (hi : Inv s) (h : s.step op = some s') : Inv s' := by
  rw [step_eq s hi.lengthField_in_range op] at h
  obtain ⟨v', hv, rfl⟩ := Option.map_eq_some_iff.mp h
  exact spec_step_inv hi hv

theorem inv_stepKeep (s : Sdt) (op : Sdt.Op) (hi : Inv s) : Inv (s.stepKeep op) := by
  unfold Sdt.stepKeep
  cases h : s.step op with
  | none => exact hi
  | some s' => exact inv_step s s' op hi h

theorem inv_run (s : Sdt) (ops : List Sdt.Op) (hi : Inv s) : Inv (s.run ops) := by
  induction ops generalizing s with
  | nil => exact hi
  | cons op ops ih => exact ih _ (inv_stepKeep s op hi)

/-- The refinement needs no more of the table than that the Length field, bytes 4..8, lies in
    it (`appendT_spec`). -/
theorem trace_eq_spec (s : Sdt) (h : 8 ≤ s.data.length) (ops : List Sdt.Op) :
    s.trace ops = Spec.Sdt.trace s.data (ops.map act) := by
  induction ops generalizing s with
  | nil => rfl
  | cons op ops ih =>
    simp only [Sdt.trace, List.map_cons, Spec.Sdt.trace, step_eq s h op]
    cases hs : Spec.Sdt.step s.data (act op) with
    | none => simp only [Option.map_none, ih s h]
    | some v' => simp only [Option.map_some, ih ⟨v'⟩ (Nat.le_trans h (spec_step_le hs))]

theorem run_eq_spec (s : Sdt) (h : 8 ≤ s.data.length) (ops : List Sdt.Op) :
    (s.run ops).data = Spec.Sdt.run s.data (ops.map act) := by
  induction ops generalizing s with
  | nil => rfl
  | cons op ops ih =>
    simp only [Sdt.run, Spec.Sdt.run, List.foldl_cons, List.map_cons, Sdt.stepKeep,
      step_eq s h op] at ih ⊢
    cases hs : Spec.Sdt.step s.data (act op) with
    | none => exact ih s h
    | some v' => exact ih ⟨v'⟩ (Nat.le_trans h (spec_step_le hs))

/-- **C13(a), observation form**: from any table satisfying the invariant, the model and
    the reference machine produce the same observation after every operation — the same
    refusals (contents unchanged) and the same contents. -/
theorem trace_refines (s : Sdt) (hi : Inv s) (ops : List Sdt.Op) :
    s.trace ops = Spec.Sdt.trace s.data (ops.map act) := trace_eq_spec s hi.lengthField_in_range ops

/-- **C13(a), final-state form**. -/
theorem run_refines (s : Sdt) (hi : Inv s) (ops : List Sdt.Op) :
    (s.run ops).data = Spec.Sdt.run s.data (ops.map act) := run_eq_spec s hi.lengthField_in_range ops

theorem inv_new (sig : Bytes) (length : UInt32) (rev : UInt8) (oemId oemTable : Bytes)
    (oemRev : UInt32) (s : Sdt) (h : Sdt.new sig length rev oemId oemTable oemRev = some s) :
    Inv s ∧ s.data.length = length.toNat := by
  obtain ⟨H, -, hH, h36, hs⟩ := new_some h
  have hl : s.data.length = length.toNat := by simp [hs, hH]; omega
  exact ⟨⟨by omega, by rw [hs]; exact sum8_fixSum _ (by simp [hH]; omega)⟩, hl⟩

/-- **C13(a)**: for every declared length ≥ 36 (header arguments of the sizes the Rust
    types enforce) creation succeeds in the model and in the reference machine with the same
    contents, and for every operation list the two agree observation by observation and on
    the final contents. -/
theorem refines (sig : Bytes) (length : UInt32) (rev : UInt8) (oemId oemTable : Bytes)
    (oemRev : UInt32) (hs : sig.length = 4) (ho : oemId.length = 6) (ht : oemTable.length = 8)
    (hlen : 36 ≤ length.toNat) :
    ∃ s : Sdt, Sdt.new sig length rev oemId oemTable oemRev = some s
      ∧ Spec.Sdt.create sig length.toNat rev oemId oemTable oemRev.toNat = some s.data
      ∧ ∀ ops : List Sdt.Op,
          s.trace ops = Spec.Sdt.trace s.data (ops.map act)
          ∧ (s.run ops).data = Spec.Sdt.run s.data (ops.map act) := by
  have hn := new_eq_create sig length rev oemId oemTable oemRev hs ho ht
  cases h : Sdt.new sig length rev oemId oemTable oemRev with
  | none =>
    rw [h] at hn
    simp only [Option.map_none, Spec.Sdt.create] at hn
    rw [if_neg (by omega)] at hn
    cases hn
  | some s =>
    rw [h] at hn
    have hi := (inv_new _ _ _ _ _ _ s h).1
    exact ⟨s, rfl, hn.symm, fun ops => ⟨trace_refines s hi ops, run_refines s hi ops⟩⟩

/-! ## (b) the image always sums to 0 -/

theorem trace_inv (s : Sdt) (hi : Inv s) (ops : List Sdt.Op) : ∀ o ∈ s.trace ops, Inv ⟨o.2⟩ := by
  induction ops generalizing s with
  | nil => intro o ho; cases ho
  | cons op ops ih =>
    simp only [Sdt.trace]
    cases h : s.step op with
    | none => exact List.forall_mem_cons.mpr ⟨hi, ih s hi⟩
    | some s' => exact List.forall_mem_cons.mpr ⟨inv_step s s' op hi h, ih s' (inv_step s s' op hi h)⟩

/-- **C13(b)**: after `new`, after every operation of any history (every observation of the
    trace), and at the end, the image sums to 0 modulo 256. -/
theorem sum_zero (sig : Bytes) (length : UInt32) (rev : UInt8) (oemId oemTable : Bytes)
    (oemRev : UInt32) (s : Sdt) (h : Sdt.new sig length rev oemId oemTable oemRev = some s)
    (ops : List Sdt.Op) :
    sum8 s.data = 0 ∧ (∀ o ∈ s.trace ops, sum8 o.2 = 0) ∧ sum8 (s.run ops).data = 0 :=
  have hi := (inv_new _ _ _ _ _ _ s h).1
  ⟨hi.2, fun o ho => (trace_inv s hi ops o ho).2, (inv_run s ops hi).2⟩

/-- one-step form of (b) -/
theorem sum_zero_step (s s' : Sdt) (op : Sdt.Op) (hi : Inv s) (h : s.step op = some s') :
    sum8 s'.data = 0 := (inv_step s s' op hi h).2

/-! ## (c) Length after an append -/

theorem step_of_isAppend (v : Bytes) (op : Sdt.Op) (ha : isAppend op = true) :
    ∃ bs, Spec.Sdt.step v (act op) = some (Spec.Sdt.append v bs) := by
  cases op with
  | sink c =>
    have hc : c.bytes ≠ [] := by simpa [isAppend] using ha
    exact ⟨c.bytes, by simp only [act, Spec.Sdt.step, Spec.Sdt.push, if_neg hc]⟩
  | append8 _ | append16 _ | append32 _ | append64 _ | appendSlice _ => exact ⟨_, rfl⟩
  | _ => cases ha

/-- **C13(c)**: after every append-type operation (typed, slice — empty included — and every
    sink call carrying at least one byte) the Length field holds the length of the image,
    as long as that length fits 32 bits. -/
theorem length_after_append (s s' : Sdt) (op : Sdt.Op) (hi : Inv s) (ha : isAppend op = true)
    (h : s.step op = some s') (hlt : s'.data.length < 2 ^ 32) :
    readAt s'.data 4 4 = some s'.data.length := by
  obtain ⟨bs, hb⟩ := step_of_isAppend s.data op ha
  rw [step_eq s hi.lengthField_in_range op, hb] at h
  cases h
  rw [length_spec_append] at hlt ⊢
  exact readAt_spec_append _ _ hi.lengthField_in_range hlt

/-- (c) along a whole history started by `new`: whenever the last operation was an
    append-type one. -/
theorem length_after_append_run (sig : Bytes) (length : UInt32) (rev : UInt8)
    (oemId oemTable : Bytes) (oemRev : UInt32) (s : Sdt)
    (h : Sdt.new sig length rev oemId oemTable oemRev = some s)
    (ops : List Sdt.Op) (op : Sdt.Op) (ha : isAppend op = true)
    (hlt : (s.run (ops ++ [op])).data.length < 2 ^ 32) :
    readAt (s.run (ops ++ [op])).data 4 4 = some (s.run (ops ++ [op])).data.length := by
  have hi := inv_run s ops (inv_new _ _ _ _ _ _ s h).1
  obtain ⟨bs, hb⟩ := step_of_isAppend (s.run ops).data op ha
  have hst := step_eq (s.run ops) hi.lengthField_in_range op
  rw [hb, Option.map_some] at hst
  have hrun : s.run (ops ++ [op]) = ⟨Spec.Sdt.append (s.run ops).data bs⟩ := by
    rw [Sdt.run, List.foldl_append, List.foldl_cons, List.foldl_nil, ← Sdt.run, Sdt.stepKeep, hst]
    rfl
  rw [hrun] at hlt ⊢
  exact length_after_append _ _ op hi ha hst hlt

/-- creation writes the declared length -/
theorem length_after_new (sig : Bytes) (length : UInt32) (rev : UInt8) (oemId oemTable : Bytes)
    (oemRev : UInt32) (hs : sig.length = 4) (ho : oemId.length = 6) (ht : oemTable.length = 8)
    (s : Sdt) (h : Sdt.new sig length rev oemId oemTable oemRev = some s) :
    s.data.length = length.toNat ∧ readAt s.data 4 4 = some length.toNat := by
  have _ := And.intro ho ht -- not needed: where the field lies depends on `sig.length` only
  refine ⟨(inv_new _ _ _ _ _ _ s h).2, ?_⟩
  obtain ⟨H, rfl, hH, h36, hd⟩ := new_some h
  rw [hd, readAt_fixSum _ 4 4 (by decide)]
  simp only [List.append_assoc]
  rw [← List.append_assoc, u32le_eq_leN, readAt_mid_leN _ _ 4 4 _ hs.symm,
    Nat.mod_eq_of_lt length.toNat_lt]

/-! ## (d) refusals -/

theorem writeRange_act (op : Sdt.Op) : writeRange op =
    match act op with | .write off bs => some (off, bs.length) | _ => none := by
  cases op <;> simp [writeRange, act]

/-- **C13(d)**: an operation is refused exactly when it is a write whose range ends past the
    end of the table (in particular: never for a write that fits, header, checksum byte and
    last position included); a refused operation leaves the table as it was. -/
theorem refused_iff (s : Sdt) (hi : Inv s) (op : Sdt.Op) :
    s.step op = none ↔ ∃ off w, writeRange op = some (off, w) ∧ s.data.length < off + w := by
  rw [step_eq s hi.lengthField_in_range op, writeRange_act, Option.map_eq_none_iff]
  cases act op with
  | write off bs =>
    simp only [Spec.Sdt.step, ite_eq_right_iff, reduceCtorEq, imp_false, Nat.not_le,
      Option.some.injEq, Prod.mk.injEq]
    exact ⟨fun h => ⟨_, _, ⟨rfl, rfl⟩, h⟩, fun ⟨_, _, ⟨rfl, rfl⟩, h⟩ => h⟩
  | _ => simp [Spec.Sdt.step]

theorem refused_unchanged (s : Sdt) (off : Nat) (bs : Bytes) (h : s.data.length < off + bs.length) :
    s.writeBytes off bs = none ∧ s.stepKeep (.writeSlice off bs) = s
      ∧ s.trace [.writeSlice off bs] = [(true, s.data)] := by
  have hn : s.writeBytes off bs = none := by
    rw [writeBytes_spec, Spec.Sdt.step, if_neg (by omega)]; rfl
  refine ⟨hn, ?_, ?_⟩
  · simp [Sdt.stepKeep, Sdt.step, hn]
  · simp [Sdt.trace, Sdt.step, hn]

/-- whatever is refused leaves the table unchanged, for every operation -/
theorem refused_keeps (s : Sdt) (op : Sdt.Op) (h : s.step op = none) :
    s.stepKeep op = s ∧ s.trace [op] = [(true, s.data)] := by
  simp [Sdt.stepKeep, Sdt.trace, h]

/-- a write that fits is accepted and changes nothing but its range and byte 9 -/
theorem write_accepted (s : Sdt) (off : Nat) (bs : Bytes) (h : off + bs.length ≤ s.data.length) :
    s.writeBytes off bs = some ⟨fixSum (put s.data off bs)⟩ := by
  rw [writeBytes_spec, Spec.Sdt.step, if_pos h]; rfl

/-- creation with a declared length below 36 is refused (model and reference machine) -/
theorem new_refused (sig : Bytes) (length : UInt32) (rev : UInt8) (oemId oemTable : Bytes)
    (oemRev : UInt32) (h : length.toNat < 36) :
    Sdt.new sig length rev oemId oemTable oemRev = none
      ∧ Spec.Sdt.create sig length.toNat rev oemId oemTable oemRev.toNat = none := by
  exact ⟨by rw [new_eq_ite _ _ _ _ _ _ _ rfl, if_pos (.inl h)], by rw [Spec.Sdt.create, if_pos h]⟩

/-! ## (e) only the concatenation matters (C14 for `Sdt`) -/

/-- **C13(e)**: feeding any list of sink calls — `byte`, `word`, `dword`, `qword`, `vec`, all
    of which reach the table as per-byte appends — gives exactly the table one
    `append_slice` of the concatenation gives; nothing is refused. -/
theorem sink_chunking (s : Sdt) (hi : Inv s) (cs : List SinkCall) (hne : flatten cs ≠ []) :
    Sdt.sink.feed (some s) cs = s.appendSlice (flatten cs) := by
  rw [sink_feed cs s hi.lengthField_in_range, appendSlice_spec _ _ hi.lengthField_in_range, Spec.Sdt.push, if_neg hne]

/-- calls that carry no byte do nothing -/
theorem sink_chunking_empty (s : Sdt) (hi : Inv s) (cs : List SinkCall) (he : flatten cs = []) :
    Sdt.sink.feed (some s) cs = some s := by
  rw [sink_feed cs s hi.lengthField_in_range, Spec.Sdt.push, if_pos he]

/-- two call lists with the same concatenation are indistinguishable -/
theorem sink_concat_only (s : Sdt) (hi : Inv s) (cs cs' : List SinkCall)
    (h : flatten cs = flatten cs') : Sdt.sink.feed (some s) cs = Sdt.sink.feed (some s) cs' := by
  rw [sink_feed cs s hi.lengthField_in_range, sink_feed cs' s hi.lengthField_in_range, h]

/-! ## the table is a byte vector -/

theorem run_agree_plain (s : Sdt) (h : 8 ≤ s.data.length) (ops : List Sdt.Op) :
    Spec.Sdt.agree (s.run ops).data (Spec.Sdt.plainRun s.data (ops.map act)) := by
  rw [run_eq_spec s h ops]
  exact agree_run (agree_refl _) _

/-- **C13, plain-vector form**: after any history, the table has the length of, and the same
    byte at every position other than the Length field (4..8) and the checksum (9) as, a
    plain byte vector — starting from the same contents — to which the same appends (`++`)
    and in-range writes (overwrite) were applied and on which nothing else was ever done. -/
theorem plain_vector (s : Sdt) (hi : Inv s) (ops : List Sdt.Op) :
    Spec.Sdt.agree (s.run ops).data (Spec.Sdt.plainRun s.data (ops.map act)) :=
  run_agree_plain s hi.lengthField_in_range ops

/-- what was pushed through the sink is the tail of the table -/
theorem sink_payload (s : Sdt) (hi : Inv s) (cs : List SinkCall) :
    ∃ s', Sdt.sink.feed (some s) cs = some s'
      ∧ s'.data.length = s.data.length + (flatten cs).length
      ∧ s'.data.drop s.data.length = flatten cs := by
  refine ⟨_, sink_feed cs s hi.lengthField_in_range, by simp, ?_⟩
  have hp := agree_push (agree_refl s.data) (flatten cs)
  apply List.ext_getElem?
  intro i
  have := hp.2 (s.data.length + i) (by have := hi.1; omega)
  rw [List.getElem?_drop, this, List.getElem?_append_right (by omega)]
  congr 1; omega

/-! ## non-vacuity -/

/-- a concrete mixed history on a 40-byte table: typed append, write into the header,
    refused write, sink push, slice append, explicit checksum update -/
def demoOps : List Sdt.Op :=
  [.append16 0xBEEF, .write32 0 0x11223344, .write8 9 0x77, .write64 35 1, .writeSlice 42 [],
   .sink (.dword 0xA0B0C0D0), .sink (.vec []), .appendSlice [], .appendSlice [1, 2, 3],
   .write8 48 0xFF, .write8 49 0xFF, .updateChecksum]

def demoNew : Option Sdt :=
  Sdt.new [0x54, 0x45, 0x53, 0x54] 40 1 [1, 2, 3, 4, 5, 6] [1, 2, 3, 4, 5, 6, 7, 8] 7

example : (demoNew.map fun s => (s.trace demoOps).map fun o => (o.1, o.2.length, sum8 o.2, readAt o.2 4 4))
    = some [(false, 42, 0, some 42), (false, 42, 0, some 42), (false, 42, 0, some 42),
            (true, 42, 0, some 42), (false, 42, 0, some 42), (false, 46, 0, some 46),
            (false, 46, 0, some 46), (false, 46, 0, some 46), (false, 49, 0, some 49),
            (false, 49, 0, some 49), (true, 49, 0, some 49), (false, 49, 0, some 49)] := by
  decide +kernel

example : demoNew.map (fun s => (s.run demoOps).data)
    = (Spec.Sdt.create [0x54, 0x45, 0x53, 0x54] 40 1 [1, 2, 3, 4, 5, 6] [1, 2, 3, 4, 5, 6, 7, 8] 7).map
        (fun v => Spec.Sdt.run v (demoOps.map act)) := by
  decide +kernel

end Acpi.C13
