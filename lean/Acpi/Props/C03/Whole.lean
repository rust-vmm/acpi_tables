/-
  C03, whole tables: the independent walk returns exactly the entries of the program.
-/
import Acpi.Tables.Whole
import Acpi.Props.C03
import Acpi.Props.C03.Entries
import Acpi.Lemmas.Whole
namespace Acpi.C03
open Spec

/-- **C03 (whole tables)**: for every table and every non-panicking program (entries within their
    Rust types, no RDPAS, RQSC resource ids 32-bit and controller type one byte, HMAT locality
    structures below 4 GiB), the specification-side walk of the emitted image — from the
    specification's first-entry offset, by each entry's own length field — returns exactly the
    entries that were added, in order, with their specification type codes, ends exactly at the
    end of the image, and the table's count and array-offset fields agree with it. -/
theorem whole_walk (T : TableId) (o : Oem) (ho : C02.OemWf o) (ops : List AddOp)
    (hwf : ∀ op ∈ ops, op.k ≠ .rdpas ∧ entryWf op.k op.ctor op.opts = true ∧
      (op.k = .qosctrl → C04.qosCtorWf op.ctor))
    (bs : List (Kind × EArgs)) (hb : buildAll ops = some bs)
    (hbnd : ∀ e ∈ bs, (e.1 = .loc → (entryBytes e.1 e.2).length < 2 ^ 32) ∧ (e.1 = .qosctrl → e.2.num 0 < 256))
    (hs : List Nat) (t : Tbl) (h : runTable T o ops = some (hs, t)) :
    ∃ sh, shapeOf T.name = some sh ∧
      tableEntries sh t.image = .ok (bs.map fun e => (typeCode e.1 e.2, entryBytes e.1 e.2)) := by
  obtain ⟨hacc, hr⟩ := Whole.runAdds_of_runTable hb h
  obtain ⟨hl, hget⟩ := Whole.buildAll_spec ops bs hb
  obtain ⟨sh, hsh, hm⟩ := shape T
  refine ⟨sh, hsh, ?_⟩
  have key := table_entries_of_shape T.cfg o ho sh hm (bs.map rawOf)
    (bs.map fun e => typeCode e.1 e.2) (by simp only [List.length_map])
    (by
      intro i hi
      have hib : i < bs.length := by rw [List.length_map] at hi; exact hi
      have hio : i < ops.length := hl ▸ hib
      obtain ⟨h1, h2⟩ := hget i hio hib
      obtain ⟨w1, w2, w3⟩ := hwf ops[i] (List.getElem_mem hio)
      obtain ⟨b1, b2⟩ := hbnd bs[i] (List.getElem_mem hib)
      simp only [List.getElem_map, rawOf]
      rw [h1] at b1 b2 ⊢
      exact entry_self_describing ops[i].k w1 T.name sh (hacc ops[i] (List.getElem_mem hio)) hsh
        ops[i].ctor ops[i].opts bs[i].2 w2 w3 h2 b1 b2)
    hs t hr
  rw [key, List.map_map, List.zip_map']
  rfl

end Acpi.C03
