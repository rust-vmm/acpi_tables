/-
  C05, mixed programs: the handles a mixed program's add calls return are the offsets of the
  bytes those calls added (modelled entries and opaque entries alike).
-/
import Acpi.Tables.Mixed
import Acpi.Props.C05
import Acpi.Lemmas.Mixed
namespace Acpi.C05

/-- **C05 (mixed programs)**: in every non-panicking mixed program (modelled entries within their
    Rust types and not RDPAS; nothing asked of the opaque entries), every call returns a handle,
    and the i-th call's handle is the byte offset at which that very call's bytes sit in the FINAL
    image: the serialised bytes `entryBytes` of the entry the builder program built if the call is
    a modelled one, the bytes `raw` verbatim if it is an opaque one. -/
theorem mixed_handles (T : TableId) (o : Oem) (ho : C02.OemWf o) (ops : List MOp)
    (hwf : ∀ op, MOp.modelled op ∈ ops → op.k ≠ .rdpas ∧ entryWf op.k op.ctor op.opts = true)
    (hs : List Nat) (t : Tbl) (h : runMixed T o ops = some (hs, t)) :
    hs.length = ops.length ∧
    ∀ i (hi : i < ops.length), ∃ hnd, hs[i]? = some hnd ∧
      (∀ op, ops[i] = .modelled op → ∃ a, buildEntry op.k op.ctor op.opts = .ok a ∧
        (t.image.drop hnd).take (entryBytes op.k a).length = entryBytes op.k a) ∧
      (∀ raw, ops[i] = .opaque raw → (t.image.drop hnd).take raw.length = raw) := by
  obtain ⟨-, es, hb, hr⟩ := Mixed.runMixed_some h
  have hcl := Mixed.claimed_eq ops hwf es hb
  obtain ⟨hl, hget⟩ := Mixed.buildMixed_spec ops es hb
  refine ⟨by rw [(handle_value T.cfg o es hcl hs t hr).1, hl], ?_⟩
  intro i hi
  have hi' : i < es.length := hl ▸ hi
  obtain ⟨hnd, h1, h2⟩ := handle_is_offset T.cfg o (Whole.cfgWf T o ho) es hcl hs t hr i hi'
  obtain ⟨g1, g2⟩ := hget i hi hi'
  refine ⟨hnd, h1, fun op hop => ?_, fun raw hraw => ?_⟩
  · obtain ⟨a, ha, e⟩ := g1 op hop
    rw [e] at h2
    exact ⟨a, ha, h2⟩
  · rw [g2 raw hraw] at h2
    exact h2

/-- the value of the handles: the i-th call's handle is the first-entry offset plus the sizes of
    the bytes added by the calls before it (`es` = what `buildMixed` lines up for the engine) -/
theorem mixed_handle_value (T : TableId) (o : Oem) (ops : List MOp)
    (hwf : ∀ op, MOp.modelled op ∈ ops → op.k ≠ .rdpas ∧ entryWf op.k op.ctor op.opts = true)
    (es : List (Bytes × Nat)) (hb : buildMixed ops = some es)
    (hs : List Nat) (t : Tbl) (h : runMixed T o ops = some (hs, t)) :
    ∀ i (_hi : i < ops.length),
      hs[i]? = some (Tbl.firstOffset T.cfg + (((es.take i).map (·.1.length)).sum)) := by
  obtain ⟨-, es', hb', hr⟩ := Mixed.runMixed_some h
  cases hb.symm.trans hb'
  intro i hi
  exact (handle_value T.cfg o es (Mixed.claimed_eq ops hwf es hb) hs t hr).2 i
    ((Mixed.buildMixed_spec ops es hb).1 ▸ hi)

/-- non-vacuity: the MADT program GICC (82 bytes), 12 opaque bytes, GICD (24 bytes) runs and its
    calls return the handles 44, 126, 138 (its hypotheses: see the example in C02/Mixed) -/
example : (runMixed (.madt 0) Mixed.exOem Mixed.exProg).map (·.1) = some [44, 126, 138] := by
  decide +kernel

/-- and the 12 opaque bytes indeed sit at offset 126 of the final image -/
example : (runMixed (.madt 0) Mixed.exOem Mixed.exProg).map
    (fun r => (r.2.image.drop 126).take 12) = some [0x7f, 12, 1, 2, 3, 4, 5, 6, 7, 8, 9, 10] := by
  decide +kernel

end Acpi.C05
