/-
  The flags field of the flag-bearing entry structures: the table of the options' bits
  (`flagBits`), the reference value of the field as the sum of the bits of the options that occur
  (`flagSum`), and why for pairwise disjoint bits that sum behaves like their union.
-/
import Acpi.Tables.Wf
import Acpi.Spec.Layout
import Acpi.Lemmas.Basic
namespace Acpi.C11
open Spec

/-- the specification's bit for each option that sets a bit of the structure's flags field: pure
    flag options, and for `.cache` and `.gicmsi` the valued options whose "valid" / select bit it is -/
def flagBits : Kind → List (String × Nat)
  | .mem => [("en", 1), ("hp", 2), ("nv", 4)]
  | .gi => [("en", 1), ("arch", 2)]
  | .rintcAff => [("en", 1)]
  | .proc => [("physical", 1), ("valid", 2), ("thread", 4), ("leaf", 8), ("identical", 16)]
  | .cache => [("size", 1), ("sets", 2), ("assoc", 4), ("alloc", 8), ("ctype", 16), ("wp", 32), ("line", 64), ("id", 128)]
  | .cfmws => [("t2", 1), ("t3", 2), ("vol", 4), ("pers", 8), ("fixed", 16)]
  | .loc => [("mtsr", 0x10), ("nst", 0x20)]
  | .gicmsi => [("spi", 1)]
  | _ => []

/-- distinct options have distinct, non-zero, pairwise disjoint bits — so distinct option sets
    are always distinguishable in the output -/
def bitsOk (l : List (String × Nat)) : Bool :=
  l.all (fun p => p.2 ≠ 0) &&
  (List.range l.length).all fun i => (List.range l.length).all fun j =>
    i = j || ((l.getD i ("", 0)).2 &&& (l.getD j ("", 0)).2) = 0

theorem flagBits_disjoint (k : Kind) : bitsOk (flagBits k) = true := by
  cases k <;> decide

/-- the flag field of the reference layout: the sum of the bits of the options of `l` present
    in the program -/
def flagSum (opts : List Opt) (l : List (String × Nat)) : Nat := (l.map fun p => bit opts p.1 p.2).sum

theorem flagSum_cons (opts : List Opt) (p : String × Nat) (l : List (String × Nat)) :
    flagSum opts (p :: l) = bit opts p.1 p.2 + flagSum opts l := by simp [flagSum]

theorem bit_le (opts : List Opt) (nm : String) (b : Nat) : bit opts nm b ≤ b := by
  unfold bit; split <;> omega

theorem flagSum_le (opts : List Opt) (l : List (String × Nat)) :
    flagSum opts l ≤ (l.map (·.2)).sum := by
  induction l with
  | nil => exact Nat.le_refl _
  | cons p l ih =>
    rw [flagSum_cons, List.map_cons, List.sum_cons]
    exact Nat.add_le_add (bit_le opts p.1 p.2) ih

abbrev BitsDisjoint (l : List (String × Nat)) : Prop := l.Pairwise fun p q => p.2 &&& q.2 = 0

theorem bit_and_eq_zero (opts : List Opt) (nm : String) {b x : Nat} (h : b &&& x = 0) :
    bit opts nm b &&& x = 0 := by
  unfold bit
  split
  · exact h
  · exact Nat.zero_and _

theorem and_flagSum_eq_zero (opts : List Opt) (x : Nat) (l : List (String × Nat)) (hd : BitsDisjoint l)
    (hx : ∀ p ∈ l, x &&& p.2 = 0) : x &&& flagSum opts l = 0 := by
  induction l generalizing x with
  | nil => exact Nat.and_zero _
  | cons q l ih =>
    obtain ⟨hq, hl⟩ := List.pairwise_cons.mp hd
    have hql := ih _ hl fun p hp => bit_and_eq_zero opts q.1 (hq p hp)
    rw [flagSum_cons, add_eq_or_of_and_eq_zero _ _ hql, Nat.and_or_distrib_left,
      ih x hl fun p hp => hx p (.tail _ hp), Nat.and_comm,
      bit_and_eq_zero opts q.1 ((Nat.and_comm ..).trans (hx q (.head _))), Nat.or_zero]

theorem pairwise_of_bitsOk (l : List (String × Nat)) (h : bitsOk l = true) :
    BitsDisjoint l ∧ ∀ p ∈ l, p.2 ≠ 0 := by
  simp only [bitsOk, Bool.and_eq_true, List.all_eq_true, List.mem_range, Bool.or_eq_true,
    decide_eq_true_eq] at h
  refine ⟨List.pairwise_iff_getElem.mpr fun i j hi hj hij => ?_, h.1⟩
  have := (h.2 i hi j hj).resolve_left (Nat.ne_of_lt hij)
  rwa [List.getD_eq_getElem?_getD, List.getD_eq_getElem?_getD, List.getElem?_eq_getElem hi,
    List.getElem?_eq_getElem hj] at this

theorem disjoint_flagBits (k : Kind) : BitsDisjoint (flagBits k) :=
  (pairwise_of_bitsOk _ (flagBits_disjoint k)).1

/-- what shares the flags field with the option bits: the HMAT locality flags byte carries the
    memory-hierarchy code (a constructor argument, below 4) in its low nibble -/
def flagBase (k : Kind) (c : EArgs) : Nat := match k with | .loc => c.num 0 | _ => 0

theorem loc_ctor_lt (c : EArgs) (opts : List Opt) (hwf : entryWf .loc c opts = true) : c.num 0 < 4 := by
  simp only [entryWf, ctorWf, Bool.and_eq_true, decide_eq_true_eq] at hwf
  exact hwf.1

/-- what shares the flags field lies below the flag bits -/
theorem flagBase_disjoint (k : Kind) (c : EArgs) (opts : List Opt) (hwf : entryWf k c opts = true) :
    ∀ p ∈ flagBits k, flagBase k c &&& p.2 = 0 := by
  cases k
  case loc =>
    have : ∀ x < 4, ∀ p ∈ flagBits .loc, x &&& p.2 = 0 := by decide
    exact this _ (loc_ctor_lt c opts hwf)
  all_goals exact fun p _ => Nat.zero_and _

end Acpi.C11
