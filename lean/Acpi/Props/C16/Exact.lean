/-
  C16 (exact acceptance) — `EISAName::new` and `Uuid::new` accept exactly the inputs described
  here, and the accepted UUID's bytes are exactly the ToUUID pairing of hex-digit values.

  `Acpi/Props/C16.lean` has the refusals, the round trips on canonical inputs and the raw
  acceptance condition `eisaValue_isSome_iff`; here acceptance is stated in the terms of the input.
-/
import Acpi.Aml.Eisa
import Acpi.Props.C16
import Acpi.Lemmas.Eisa
namespace Acpi.C16
open Lemmas.Eisa

/-- **C16 (hex digits)**: `to_digit(16)` succeeds exactly on `0-9`, `a-f`, `A-F`. -/
theorem toDigit16_isSome_iff (c : Char) : (toDigit16 c).isSome ↔
    ('0' ≤ c ∧ c ≤ '9') ∨ ('a' ≤ c ∧ c ≤ 'f') ∨ ('A' ≤ c ∧ c ≤ 'F') := by
  unfold toDigit16
  split
  · next h => exact ⟨fun _ => .inl h, fun _ => rfl⟩
  · next h1 =>
    split
    · next h => exact ⟨fun _ => .inr (.inl h), fun _ => rfl⟩
    · next h2 =>
      split
      · next h => exact ⟨fun _ => .inr (.inr h), fun _ => rfl⟩
      · next h3 => exact ⟨(fun h => nomatch h), fun h => h.elim h1.elim (·.elim h2.elim h3.elim)⟩

example : (toDigit16 'c').isSome := (toDigit16_isSome_iff 'c').mpr (by decide)
example : ¬ (toDigit16 'g').isSome := fun h => absurd ((toDigit16_isSome_iff 'g').mp h) (by decide)

example : toDigit16 'F' = some 15 := by decide

/-- the canonical textual UUID shape: 36 characters, `-` at 8, 13, 18, 23 and a hex digit
    (either case) at each of the other 32 positions -/
def uuidCanonical (cs : List Char) : Prop :=
  cs.length = 36 ∧ ∀ j, j < 36 →
    (if j = 8 ∨ j = 13 ∨ j = 18 ∨ j = 23 then cs[j]! = '-' else (toDigit16 cs[j]!).isSome)

/-- **C16 (UUID, exact)**: `Uuid::new` returns a buffer exactly on the canonical shape, and the
    buffer is then the specification's ToUUID buffer of the string. -/
theorem uuid_eq_some_iff (cs : List Char) (b : Bytes) :
    uuidBytes cs = some b ↔ uuidCanonical cs ∧ b = Spec.Eisa.uuidToBuffer cs := by
  have pairs (hc : uuidCanonical cs) :
      uuidPairs.map (fun p => hex2byte cs[p.1]! cs[p.2]!) = (Spec.Eisa.uuidToBuffer cs).map some := by
    rw [show Spec.Eisa.uuidToBuffer cs = uuidPairs.map fun p => UInt8.ofNat
      (16 * Spec.Eisa.hexVal (cs.getD p.1 '0') + Spec.Eisa.hexVal (cs.getD (p.1 + 1) '0')) from rfl, List.map_map]
    refine List.map_congr_left fun p hp => ?_
    obtain ⟨r1, r2, e, n1, n2⟩ := uuidPairs_ok p hp
    have a1 := hc.2 p.1 r1
    have a2 := hc.2 p.2 r2
    rw [if_neg n1] at a1
    rw [if_neg n2] at a2
    rw [hex2byte_val a1 a2, getElem!_eq_getD cs p.1 (hc.1 ▸ r1) '0', getElem!_eq_getD cs p.2 (hc.1 ▸ r2) '0', e]
    rfl
  constructor
  · intro h
    obtain ⟨hl, ⟨h8, h13, h18, h23⟩, hb⟩ := (uuidBytes_eq_some_iff_pairs cs b).mp h
    have hc : uuidCanonical cs := ⟨hl, fun j hj => by
      split
      · next hd => rcases hd with rfl | rfl | rfl | rfl <;> assumption
      · next hd =>
        cases hdig : toDigit16 cs[j]! with
        | some d => rfl
        | none => rw [uuid_nonhex cs j hj (by simpa only [not_or] using hd) hdig] at h; cases h⟩
    exact ⟨hc, (List.map_inj_right fun _ _ => Option.some.inj).mp (hb.symm.trans (pairs hc))⟩
  · rintro ⟨hc, rfl⟩
    have d (j : Nat) (hj : j < 36) (hd : j = 8 ∨ j = 13 ∨ j = 18 ∨ j = 23) : cs[j]! = '-' := by
      have := hc.2 j hj
      rwa [if_pos hd] at this
    exact (uuidBytes_eq_some_iff_pairs ..).mpr ⟨hc.1, ⟨d 8 (by decide) (by decide), d 13 (by decide) (by decide),
      d 18 (by decide) (by decide), d 23 (by decide) (by decide)⟩, pairs hc⟩

/-- **C16 (UUID, exact acceptance)**: `Uuid::new` does not panic exactly on the canonical
    shape — 36 characters, dashes at 8/13/18/23, hex digits everywhere else. -/
theorem uuid_accepted_iff (cs : List Char) : (uuidBytes cs).isSome ↔ uuidCanonical cs := by
  simp only [Option.isSome_iff_exists, uuid_eq_some_iff, exists_and_left, exists_eq, and_true]

/-- test vector, evaluated once for the examples below: a canonical string in mixed case
    (`c5dcda2c-…` starts `2c da dc c5`) -/
theorem uuidBytes_sample : uuidBytes "c5DCDA2c-2b0f-4Dd3-b7a7-d1e8f4c0a1b2".toList =
    some [0x2c, 0xda, 0xdc, 0xc5, 0x0f, 0x2b, 0xd3, 0x4d, 0xb7, 0xa7, 0xd1, 0xe8, 0xf4, 0xc0, 0xa1, 0xb2] := by
  decide +kernel

/-- test vector: the right multiset of characters (4 dashes, 32 hex digits, 36 long) but grouped
    7-5-4-4-12: the first dash is at index 7, so index 8 holds a digit — refused. -/
theorem uuidBytes_moved_dash : uuidBytes "c5dcda2-c2b0f-4dd3-b7a7-d1e8f4c0a1b2".toList = none := by
  decide +kernel

/-- non-vacuity: a canonical string (mixed case) is accepted -/
example : (uuidBytes "c5DCDA2c-2b0f-4Dd3-b7a7-d1e8f4c0a1b2".toList).isSome := by
  rw [uuidBytes_sample]; rfl

example : uuidBytes "c5dcda2-c2b0f-4dd3-b7a7-d1e8f4c0a1b2".toList = none := uuidBytes_moved_dash

/-- the same via the theorem: the 7-5-4-4-12 grouping is not canonical -/
example : ¬ uuidCanonical "c5dcda2-c2b0f-4dd3-b7a7-d1e8f4c0a1b2".toList := by
  intro h
  have := (uuid_accepted_iff _).mpr h
  rw [uuidBytes_moved_dash] at this
  cases this

/-- **C16 (UUID)**: an accepted UUID yields exactly 16 buffer bytes. -/
theorem uuid_accepted_length (cs : List Char) (b : Bytes) (h : uuidBytes cs = some b) :
    b.length = 16 := by
  rw [((uuid_eq_some_iff cs b).mp h).2]
  rfl

example : ∃ b, uuidBytes "c5DCDA2c-2b0f-4Dd3-b7a7-d1e8f4c0a1b2".toList = some b ∧ b.length = 16 :=
  ⟨_, uuidBytes_sample, rfl⟩

/-- **C16 (UUID, exact value)**: when accepted, byte `i` of the buffer is
    `16 * digit(cs[p]) + digit(cs[q])` (written `hi <<< 4 ||| lo` on `u8`, the digits being
    below 16 by `toDigit16_val`) where `(p, q) = uuidPairs[i]` is the ToUUID pairing
    (6,7),(4,5),(2,3),(0,1),(11,12),(9,10),(16,17),(14,15),(19,20),(21,22),(24,25),…,(34,35):
    the first three groups byte-reversed, the last two in textual order. -/
theorem uuid_value_exact (cs : List Char) (b : Bytes) (h : uuidBytes cs = some b) :
    ∀ i, i < 16 → ∃ hi lo : UInt32,
      toDigit16 cs[(uuidPairs[i]!).1]! = some hi ∧ toDigit16 cs[(uuidPairs[i]!).2]! = some lo ∧
      b[i]! = (hi.toUInt8 <<< 4) ||| lo.toUInt8 := by
  intro i hi
  have hb : i < b.length := by rw [uuid_accepted_length cs b h]; exact hi
  -- the `i`-th entries of the two lists of `uuidBytes_eq_some_iff_pairs`
  have e := congrArg (·[i]?) ((uuidBytes_eq_some_iff_pairs cs b).mp h).2.2
  simp only [List.getElem?_map, List.getElem?_eq_getElem (show i < uuidPairs.length from hi),
    List.getElem?_eq_getElem hb, Option.map_some, Option.some.injEq] at e
  rw [getElem!_pos uuidPairs i hi, getElem!_pos b i hb]
  unfold hex2byte at e
  simp only [Option.bind_eq_bind, Option.bind_eq_some_iff, Option.some.injEq] at e
  obtain ⟨x, hx, y, hy, e⟩ := e
  exact ⟨x, y, hx, hy, e.symm⟩

/-- the pairing list is the one named in the statement -/
example : uuidPairs =
    [(6, 7), (4, 5), (2, 3), (0, 1), (11, 12), (9, 10), (16, 17), (14, 15), (19, 20), (21, 22),
     (24, 25), (26, 27), (28, 29), (30, 31), (32, 33), (34, 35)] := rfl

/-- non-vacuity: the buffer of a concrete UUID -/
example : uuidBytes "c5DCDA2c-2b0f-4Dd3-b7a7-d1e8f4c0a1b2".toList =
    some [0x2c, 0xda, 0xdc, 0xc5, 0x0f, 0x2b, 0xd3, 0x4d, 0xb7, 0xa7, 0xd1, 0xe8, 0xf4, 0xc0, 0xa1, 0xb2] :=
  uuidBytes_sample

/-- **C16 (UUID, exact value, arithmetic form)**: when accepted, byte `i` of the buffer has
    the numeric value `16 * hi + lo`, with `hi, lo < 16` the values of the hex digits at the
    `i`-th ToUUID pair of positions. -/
theorem uuid_value_exact_nat (cs : List Char) (b : Bytes) (h : uuidBytes cs = some b) :
    ∀ i, i < 16 → ∃ hi lo : UInt32,
      toDigit16 cs[(uuidPairs[i]!).1]! = some hi ∧ toDigit16 cs[(uuidPairs[i]!).2]! = some lo ∧
      hi.toNat < 16 ∧ lo.toNat < 16 ∧ (b[i]!).toNat = 16 * hi.toNat + lo.toNat := by
  intro i hi
  obtain ⟨x, y, hx, hy, hb⟩ := uuid_value_exact cs b h i hi
  have lx := (toDigit16_val _ _ hx).2
  have ly := (toDigit16_val _ _ hy).2
  refine ⟨x, y, hx, hy, lx, ly, ?_⟩
  rw [hb, nibbles x y lx ly]
  exact UInt8.toNat_ofNat_of_lt' (by show _ < 256; omega)

/-- **C16 (EISA, exact acceptance)**: `EISAName::new` does not panic exactly when the string is
    7 bytes long, its first three bytes are at least `0x40` (`checked_sub(NAMECHARBASE)`
    succeeds), and characters 3..6 exist and are hex digits.  (Note what this does *not*
    require: the first three bytes need not be upper-case letters.) -/
theorem eisa_accepted_iff (bytes : Bytes) (chars : List Char) :
    (eisaValue bytes chars).isSome ↔
      bytes.length = 7 ∧ (0x40 : UInt8) ≤ bytes[0]! ∧ (0x40 : UInt8) ≤ bytes[1]! ∧ (0x40 : UInt8) ≤ bytes[2]! ∧
      (∀ k, k = 3 ∨ k = 4 ∨ k = 5 ∨ k = 6 → ((chars[k]?).bind toDigit16).isSome) := by
  rw [eisaValue_isSome_iff, subBase_isSome_iff, subBase_isSome_iff, subBase_isSome_iff]
  refine and_congr_right' (and_congr_right' (and_congr_right' (and_congr_right' ?_)))
  exact ⟨fun ⟨h3, h4, h5, h6⟩ k hk => by rcases hk with rfl | rfl | rfl | rfl <;> assumption,
    fun h => ⟨h 3 (.inl rfl), h 4 (.inr (.inl rfl)), h 5 (.inr (.inr (.inl rfl))), h 6 (.inr (.inr (.inr rfl)))⟩⟩

/-- non-vacuity: `PNP0A08` is accepted -/
example : (eisaValue (asciiBytes "PNP0A08".toList) "PNP0A08".toList).isSome := by decide

/-- accepted although not a letter: `@` (0x40) passes `checked_sub` -/
example : (eisaValue (asciiBytes "@@@0000".toList) "@@@0000".toList).isSome := by decide

/-- refused: a first byte below `0x40` -/
example : eisaValue (asciiBytes "1NP0A08".toList) "1NP0A08".toList = none := by decide

end Acpi.C16
