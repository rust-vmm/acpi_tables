/-
  C10 — the driver's "reference value must fit its field" requirement (DESIGN 18.2) never fires on a
  descriptor the model accepts: for every well-formed descriptor whose range length is
  representable, every numeric row of the reference layout fits its width, so `render` truncates
  nothing and `conforms` compares the image with the specification's values themselves.
-/
import Acpi.Spec.Res
import Acpi.Spec.AmlWf
import Acpi.Lemmas.Res
namespace Acpi.C10
open Spec

/-- a numeric row's value is representable in its width -/
def rowFits : Row → Bool
  | .num _ w v => decide (v < 2 ^ (8 * w))
  | .raw _ _ => true

/-- minimum and maximum of an address-space descriptor, as the reference reads them -/
def asMinMax (op : Op) (ints : List Nat) : Nat × Nat :=
  match op with
  | .asmem => (ints.getD 3 0, ints.getD 4 0)
  | _ => (ints.getD 1 0, ints.getD 2 0)

-- `hW` is nested as `descWfB`'s `w (i 0)` (`||` is left-associative) unfolds
theorem asRows_fit (W : Nat) (hW : (W = 16 ∨ W = 32) ∨ W = 64) (a b c : Nat) (ha : a < 2 ^ W) (hb : b < 2 ^ W)
    (hc : c < 2 ^ W) (hl : b - a + 1 < 2 ^ W) (ty tf : Nat) (hty : ty < 256) (htf : tf < 256) :
    ∀ r ∈ Res.asRows (W / 8) (if W = 16 then 0x88 else if W = 32 then 0x87 else 0x8A) ty tf a b c,
      rowFits r = true := by
  intro r hr
  simp only [Res.asRows, List.mem_cons, List.not_mem_nil, or_false] at hr
  rcases hW with (rfl | rfl) | rfl <;>
    rcases hr with rfl | rfl | rfl | rfl | rfl | rfl | rfl | rfl | rfl | rfl <;>
    simp [rowFits] <;> omega

/-- well-formed arguments and, for an address space, a representable range length (max − min + 1
    below 2^width — what the encoder insists on) ⇒ every reference value fits its field -/
theorem rows_fit (op : Op) (ints : List Nat) (hwf : Spec.Aml.descWfB op ints = true)
    (hop : (op = .mem32 ∨ op = .io ∨ op = .irq ∨ op = .reg) ∨ (op = .asmem ∨ op = .asio ∨ op = .asbus) ∧
      (asMinMax op ints).2 - (asMinMax op ints).1 + 1 < 2 ^ ints.getD 0 0)
    (total : Nat) (rs : List Row) (h : Res.rows op ints = some (total, rs)) : ∀ r ∈ rs, rowFits r = true := by
  have bit (n : Nat) : (if n ≠ 0 then 1 else 0 : Nat) ≤ 1 := by split <;> omega
  rcases hop with hop | ⟨hop, hlen⟩
  · have b0 := bit (ints.getD 0 0)
    have b1 := bit (ints.getD 1 0)
    have b2 := bit (ints.getD 2 0)
    have b3 := bit (ints.getD 3 0)
    rcases hop with rfl | rfl | rfl | rfl <;>
    · cases h
      simp only [Spec.Aml.descWfB, Bool.and_eq_true, decide_eq_true_eq] at hwf
      intro r hr
      simp only [List.mem_cons, List.not_mem_nil, or_false] at hr
      -- at most seven rows, each a constant, an argument bounded by `hwf`, or a sum of flag bits
      rcases hr with rfl | rfl | rfl | rfl | rfl | rfl | rfl <;> simp only [rowFits, decide_eq_true_eq] <;> omega
  · rcases hop with rfl | rfl | rfl <;> cases h <;>
      simp only [Spec.Aml.descWfB, Bool.and_eq_true, Bool.or_eq_true, decide_eq_true_eq] at hwf
    · obtain ⟨⟨⟨⟨hw, h1⟩, h3⟩, h4⟩, h6⟩ := hwf
      refine asRows_fit _ hw _ _ _ h3 h4 ?_ hlen 0 _ (by omega) ?_
      · split
        · exact h6
        · exact Nat.two_pow_pos _
      · have := bit (ints.getD 2 0); dsimp only; omega
    · obtain ⟨⟨⟨hw, h1⟩, h2⟩, h4⟩ := hwf
      refine asRows_fit _ hw _ _ _ h1 h2 ?_ hlen 1 3 (by omega) (by omega)
      split
      · exact h4
      · exact Nat.two_pow_pos _
    · obtain ⟨⟨hw, h1⟩, h2⟩ := hwf
      exact asRows_fit _ hw _ _ _ h1 h2 (Nat.two_pow_pos _) hlen 2 0 (by omega) (by omega)

/-- the fixed-size descriptors: well-formed arguments ⇒ every reference value fits its field -/
theorem fixed_descriptor_rows_fit (op : Op) (ints : List Nat) (hop : op = .mem32 ∨ op = .io ∨ op = .irq ∨ op = .reg)
    (hwf : Spec.Aml.descWfB op ints = true) (total : Nat) (rs : List Row) (h : Res.rows op ints = some (total, rs)) :
    ∀ r ∈ rs, rowFits r = true :=
  rows_fit op ints hwf (.inl hop) total rs h

/-- the address-space descriptors: well-formed arguments and a representable range length
    (max − min + 1 below 2^width — what the encoder insists on) ⇒ every reference value fits -/
theorem address_space_rows_fit (op : Op) (ints : List Nat) (hop : op = .asmem ∨ op = .asio ∨ op = .asbus)
    (hwf : Spec.Aml.descWfB op ints = true)
    (hlen : (asMinMax op ints).2 - (asMinMax op ints).1 + 1 < 2 ^ ints.getD 0 0)
    (total : Nat) (rs : List Row) (h : Res.rows op ints = some (total, rs)) :
    ∀ r ∈ rs, rowFits r = true :=
  rows_fit op ints hwf (.inr ⟨hop, hlen⟩) total rs h

/-- non-vacuity: a DWord memory descriptor 0x1000..0x1fff meets the hypotheses … -/
example : Spec.Aml.descWfB .asmem [32, 0, 1, 0x1000, 0x1fff, 0, 0] = true ∧
    (asMinMax .asmem [32, 0, 1, 0x1000, 0x1fff, 0, 0]).2 - (asMinMax .asmem [32, 0, 1, 0x1000, 0x1fff, 0, 0]).1 + 1 < 2 ^ 32 := by decide

/-- … and the guard is sharp: for the whole-width range 0..0xFFFF_FFFF (well-formed arguments) the
    specification's range length 2^32 does *not* fit its four-byte field — the input of seeded/U01 -/
theorem full_width_range_does_not_fit :
    Spec.Aml.descWfB .asmem [32, 0, 1, 0, 4294967295, 0, 0] = true ∧
    ∃ total rs, Res.rows .asmem [32, 0, 1, 0, 4294967295, 0, 0] = some (total, rs) ∧ ∃ r ∈ rs, rowFits r = false := by
  refine ⟨by decide, _, _, rfl, Row.num 22 4 4294967296, ?_, by decide⟩
  decide

end Acpi.C10
