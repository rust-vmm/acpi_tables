/-
  C04 on the fixed tables with a slot state (FADT, TCPA server): `slotValue` read forwards as a fold
  of `upd`; and, every builder call being a list of writes to distinct slots (`Writes`, in
  Lemmas/Builder) that the reference (`fadtWrite`, `tcpasWrite`) looks up, a program leaves
  `slotValue` in every slot (`slots_run`).
-/
import Acpi.Spec.FixedLayout
import Acpi.Lemmas.FixedRun
import Acpi.Lemmas.Builder
namespace Acpi.C04
open Spec

theorem slotValue_go_acc (wr : Nat → Opt → Option (Nat × Bool)) (slot d : Nat) (l : List Opt) (acc : Nat) :
    slotValue.go wr slot d l acc = slotValue.go wr slot d l 0 ||| acc := by
  induction l generalizing acc with
  | nil => simp [slotValue.go]
  | cons o rest ih =>
    simp only [slotValue.go]
    split
    · rw [ih (acc ||| _), ih (0 ||| _)]
      simp only [Nat.zero_or, Nat.or_assoc]
      congr 1
      exact Nat.or_comm _ _
    · rw [Nat.or_zero]
    · exact ih acc

theorem slotValue_go_foldr (wr : Nat → Opt → Option (Nat × Bool)) (slot d : Nat) (l : List Opt) :
    slotValue.go wr slot d l 0 = l.foldr (fun o x => upd (wr slot o) x) d := by
  induction l with
  | nil => simp [slotValue.go]
  | cons o rest ih =>
    simp only [slotValue.go, List.foldr_cons]
    split
    · rename_i v h
      rw [h, slotValue_go_acc, ih, upd_or, Nat.zero_or]
    · rename_i v h
      rw [h, upd_set, Nat.or_zero]
    · rename_i h
      rw [h, ih]; rfl

theorem slotValue_foldl (wr : Nat → Opt → Option (Nat × Bool)) (slot d : Nat) (ops : List Opt) :
    slotValue wr slot d ops = ops.foldl (fun x o => upd (wr slot o) x) d := by
  unfold slotValue
  rw [slotValue_go_foldr, List.foldr_reverse]

theorem slotValue_nil (wr : Nat → Opt → Option (Nat × Bool)) (slot d : Nat) :
    slotValue wr slot d [] = d := by
  rw [slotValue_foldl]; rfl

theorem slotValue_cons (wr : Nat → Opt → Option (Nat × Bool)) (slot d : Nat) (o : Opt) (ops : List Opt) :
    slotValue wr slot d (o :: ops) = slotValue wr slot (upd (wr slot o) d) ops := by
  rw [slotValue_foldl, slotValue_foldl]; rfl

/-- if every call of `apply` is such a list of writes that `wr` looks up, a program leaves
    `slotValue wr` in every slot -/
theorem slots_run (t : FixedT) (n : Nat) (apply : EArgs → Opt → Option EArgs)
    (wr : Nat → Opt → Option (Nat × Bool))
    (hstep : ∀ (s : FixedState) o, s.t = t → s.step o = (apply s.a o).map fun a => { s with a })
    (happly : ∀ a a' o, apply a o = some a' → Writes n (wr · o) a a')
    (ops : List Opt) : ∀ (s s' : FixedState), s.t = t → s.a.n.size = n →
    runFixedFrom s ops = some s' → ∀ i, s'.a.num i = slotValue wr i (s.a.num i) ops := by
  induction ops with
  | nil => intro s s' _ _ h i; cases h; rw [slotValue_nil]
  | cons o os ih =>
    intro s s' ht hs h i
    obtain ⟨s1, h1, h2⟩ := runFixedFrom_cons_some h
    rw [hstep s o ht, Option.map_eq_some_iff] at h1
    obtain ⟨a, ha, rfl⟩ := h1
    obtain ⟨hs1, hv⟩ := (happly _ _ _ ha).num hs
    rw [slotValue_cons, ← hv i]
    exact ih { s with a } s' ht hs1 h2 i

end Acpi.C04
