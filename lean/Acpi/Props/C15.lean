/-
  C15 — alternative construction paths for the same object emit identical bytes.
-/
import Acpi.Aml.Term
namespace Acpi.C15

/-- **C15 (scope)**: `Scope::raw(path, serialised children)` — which builds `10 path children`,
    grows the vector and splices the PkgLength in with `copy_within` — yields exactly the bytes
    of `Scope::new(path, children)`, at every size (in particular across every PkgLength width
    boundary), and refuses in exactly the same cases. -/
theorem scoperaw_eq_scope (ints : List Nat) (blobs : List Bytes) (kids : AmlList) :
    (Aml.node .scoperaw ints blobs kids).enc = (Aml.node .scope ints blobs kids).enc :=
  -- the two arms of `enc` differ in the splice only, and `take 1`, `drop 1`, `length - 1` of
  -- `[0x10] ++ p ++ d` compute to `[0x10]`, `p ++ d`, `(p ++ d).length`: the arm of `pkgObj`
  rfl

/-- **C15 (package)**: a `PackageBuilder` filled element by element equals `Package::new` of
    the list of the same elements (same bytes, same refusals). -/
theorem pkgb_eq_pkg (ints : List Nat) (blobs : List Bytes) (kids : AmlList) :
    (Aml.node .pkgb ints blobs kids).enc = (Aml.node .pkg ints blobs kids).enc := by
  simp only [Aml.enc]
  cases hd : catOpt (AmlList.encs kids) with
  | none => simp
  | some d =>
    simp only [Option.bind_some, pkgObj]
    by_cases h : 255 < kids.length
    · simp [h]
    · simp only [h, if_false]
      have : ([UInt8.ofNat kids.length] ++ d : Bytes).length = d.length + 1 := by simp
      rw [this]
      split <;> simp

/-- **C15 (integers)**: a platform-width and a 64-bit integer of equal value are interchangeable. -/
theorem usize_eq_u64 (ints : List Nat) (blobs : List Bytes) (kids : AmlList) :
    (Aml.node .usize ints blobs kids).enc = (Aml.node .u64 ints blobs kids).enc := rfl

/-- borrowed and owned strings share one encoder (`create_aml_string`): in the model both are
    the constructor `.str`, so there is nothing to prove beyond the correspondence check,
    which serialises the same text once as `&'static str` and once as `String`. -/
theorem str_one_encoder (ints : List Nat) (blobs : List Bytes) (kids : AmlList) :
    (Aml.node .str ints blobs kids).enc = some ([0x0D] ++ blobs.getD 0 [] ++ [0x00]) := rfl

/-- non-vacuity: a scope whose body crosses the one-byte PkgLength boundary -/
example : (Aml.node .scoperaw [] [[0x5F, 0x53, 0x42, 0x5F]]
    (.cons (.node .buf [] [List.replicate 60 7] .nil) .nil)).enc ≠ none := by decide

end Acpi.C15
