/-
  The 36-byte header image `hdrBytes` that the append tables and the fixed tables share: its size,
  its byte sum as a function of the Length and checksum fields, the Length field read back, and its
  conformance to the reference rows `hdrRows` with arbitrary rows behind it (`conforms_hdrRows`).
-/
import Acpi.Header
import Acpi.Spec.FixedLayout
import Acpi.Lemmas.Layout
import Acpi.Props.C17
namespace Acpi

theorem length_hdrBytes (sig : Bytes) (len : UInt32) (rev k : UInt8) (o : Oem)
    (hsig : sig.length = 4) (hid : o.id.length = 6) (htb : o.table.length = 8) :
    (hdrBytes sig len rev k o).length = 36 := by
  unfold hdrBytes
  simp only [List.length_append, length_u32le, List.length_cons, List.length_nil, hsig, hid, htb,
    creatorId, creatorRev]

theorem sum8_hdrBytes (sig : Bytes) (len : UInt32) (rev k : UInt8) (o : Oem) :
    sum8 (hdrBytes sig len rev k o) = sum8 (hdrBytes sig len rev 0 o) + k := by
  unfold hdrBytes
  simp only [sum8_append, sum8_cons, sum8_nil]
  grind

theorem sum8_hdrBytes_len (sig : Bytes) (len len' : UInt32) (rev k : UInt8) (o : Oem) :
    sum8 (hdrBytes sig len' rev k o) =
      sum8 (hdrBytes sig len rev k o) - sum8 (u32le len) + sum8 (u32le len') := by
  unfold hdrBytes
  simp only [sum8_append, sum8_cons, sum8_nil]
  grind

/-- a header whose checksum byte is `Checksum::value()` of an accumulator that holds the sum
    of every other byte: the whole sums to zero -/
theorem sum8_with_cksum (sig : Bytes) (len : UInt32) (rev : UInt8) (o : Oem) (rest : Bytes) (c : Cks)
    (hc : c.raw = sum8 (hdrBytes sig len rev 0 o ++ rest)) :
    sum8 (hdrBytes sig len rev c.cksum o ++ rest) = 0 := by
  rw [sum8_append, sum8_hdrBytes, C17.cksum_eq_neg, hc, sum8_append]
  grind

theorem readAt_hdr_length (sig : Bytes) (len : UInt32) (rev k : UInt8) (o : Oem) (rest : Bytes)
    (hs : sig.length = 4) : readAt (hdrBytes sig len rev k o ++ rest) 4 4 = some len.toNat := by
  unfold hdrBytes
  -- bracket as `sig ++ u32le _ ++ everything else`, the shape of `readAt_mid_leN`
  simp only [List.append_assoc]
  rw [← List.append_assoc, u32le_eq_leN, readAt_mid_leN _ _ 4 4 _ hs.symm,
    Nat.mod_eq_of_lt len.toNat_lt]

end Acpi

namespace Acpi.C04
open Spec

theorem lays_hdrRows (sig : Bytes) (len : Nat) (r k : UInt8) (o : Oem)
    (hs : sig.length = 4) (h1 : o.id.length = 6) (h2 : o.table.length = 8) :
    Lays 0 36 (hdrRows sig len r.toNat k.toNat o) (hdrBytes sig (UInt32.ofNat len) r k o) := by
  constructor
  · simp [hdrRows, tilesFrom, Row.off, Row.width, hs, h1, h2]
  · rw [hdrBytes, u32le_ofNat]
    simp only [render, hdrRows, List.flatMap_cons, List.flatMap_nil, Row.bytes, leN_one_toNat,
      u32le_eq_leN, creatorId, creatorRev, List.append_nil, List.append_assoc, List.cons_append,
      List.nil_append]

theorem hdr_rev_cks_byte (sig : Bytes) (len : UInt32) (r k : UInt8) (o : Oem) (rest : Bytes) (hs : sig.length = 4) :
    (hdrBytes sig len r k o ++ rest).getD 8 0 = r ∧ (hdrBytes sig len r k o ++ rest).getD 9 0 = k := by
  have h (i : Nat) (l : Bytes) : (sig ++ l).getD (4 + i) 0 = l.getD i 0 := by
    rw [List.getD_eq_getElem?_getD, List.getElem?_append_right (by omega), hs, Nat.add_sub_cancel_left,
      List.getD_eq_getElem?_getD]
  unfold hdrBytes
  simp only [List.append_assoc]
  exact ⟨h 4 _, h 5 _⟩

/-- header rows, then `rows`: a header image conforms once `rows` tile `[36, total)` and render to
    what follows the header.  `len`, what the Length field holds, is free: for the head of an append
    table (`Whole.head_conforms`) it is the size of the whole table, not `total`. -/
theorem conforms_hdrRows (sig : Bytes) (total len : Nat) (r k : UInt8) (o : Oem) (body : Bytes)
    (rows : List Row) (hs : sig.length = 4) (h1 : o.id.length = 6) (h2 : o.table.length = 8)
    (ht : tilesFrom 36 total rows = true) (hb : body = render rows) :
    conforms total (hdrRows sig len r.toNat k.toNat o ++ rows)
      (hdrBytes sig (UInt32.ofNat len) r k o ++ body) = none :=
  ((lays_hdrRows sig len r k o hs h1 h2).append ⟨ht, hb⟩).conforms

/-- the case `total = len`, with revision and checksum read off bytes 8 and 9 of the image, as
    `fixed_conforms` states it -/
theorem conforms_hdrRows_observed (sig : Bytes) (len : Nat) (r k : UInt8) (o : Oem) (body : Bytes) (rows : List Row)
    (hs : sig.length = 4) (h1 : o.id.length = 6) (h2 : o.table.length = 8)
    (ht : tilesFrom 36 len rows = true) (hb : body = render rows) :
    let img := hdrBytes sig (UInt32.ofNat len) r k o ++ body
    conforms len (hdrRows sig len (img.getD 8 0).toNat (img.getD 9 0).toNat o ++ rows) img = none := by
  intro img
  obtain ⟨e8, e9⟩ := hdr_rev_cks_byte sig (UInt32.ofNat len) r k o body hs
  rw [e8, e9]
  exact conforms_hdrRows sig len len r k o body rows hs h1 h2 ht hb

end Acpi.C04
