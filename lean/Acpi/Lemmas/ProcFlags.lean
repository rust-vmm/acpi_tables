/-
  The PPTT processor node with direct writes of its three public fields (`set=slot.value`,
  slots 0 = flags, 1 = parent, 2 = ACPI processor id): the flags slot is the one slot of the
  development that is both assigned and OR-ed into, so its reference value (`procFlags`: the last
  value written, with the bits of the flag builders invoked after that write) is characterised
  here as the fold of that mixed update, and bounded under `entryWf`.
-/
import Acpi.Lemmas.Builder
namespace Acpi.Spec

/-- the program never assigns the PPTT flags field (state slot 0) directly -/
def noFlagsWrite (opts : List Opt) : Bool := opts.all (fun o => ¬ (o.name = "set" ∧ o.arg 0 = 0))

end Acpi.Spec

namespace Acpi.ProcF
open Spec Builder

theorem procFlags_eq (opts : List Opt) :
    procFlags opts = lastSet opts 0 0 ||| C11.flagSum (afterLastFlagsWrite opts) (C11.flagBits .proc) := by
  simp [procFlags, C11.flagSum, C11.flagBits, Nat.add_assoc]

theorem lastSet_snoc (os : List Opt) (o : Opt) (j d : Nat) :
    lastSet (os ++ [o]) j d = if o.name = "set" ∧ o.arg 0 = j then o.arg 1 else lastSet os j d := by
  simpa [lastSet] using last_snoc (fun o => decide (o.name = "set" ∧ o.arg 0 = j)) (·.arg 1) os o d

theorem afterLastFlagsWrite_snoc (os : List Opt) (o : Opt) :
    afterLastFlagsWrite (os ++ [o]) =
      if o.name = "set" ∧ o.arg 0 = 0 then [] else afterLastFlagsWrite os ++ [o] := by
  unfold afterLastFlagsWrite
  rw [List.reverse_append, List.reverse_singleton, List.singleton_append, List.takeWhile_cons]
  by_cases h : o.name = "set" ∧ o.arg 0 = 0 <;> simp [h]

theorem afterLastFlagsWrite_nil : afterLastFlagsWrite [] = [] := rfl

theorem procFlags_nil : procFlags [] = 0 := rfl

/-- what one call does to the flags slot: a direct write replaces it, a flag builder ORs its bit
    in, anything else leaves it alone — and `procFlags` is the fold of that -/
theorem foldl_procFlags (opts : List Opt) :
    opts.foldl (fun v o => if o.name = "set" ∧ o.arg 0 = 0 then o.arg 1
      else v ||| callBits (C11.flagBits .proc) o) 0 = procFlags opts := by
  induction opts using snoc_induction with
  | hnil => rfl
  | hsnoc os o ih =>
    rw [List.foldl_append, List.foldl_cons, List.foldl_nil, ih, procFlags_eq, procFlags_eq, lastSet_snoc,
      afterLastFlagsWrite_snoc]
    by_cases hw : o.name = "set" ∧ o.arg 0 = 0
    · rw [if_pos hw, if_pos hw, if_pos hw]
      exact (Nat.or_zero _).symm
    · rw [if_neg hw, if_neg hw, if_neg hw, ← foldl_callBits _ (C11.disjoint_flagBits .proc) (_ ++ [o]),
        List.foldl_append, foldl_callBits _ (C11.disjoint_flagBits .proc), List.foldl_cons, List.foldl_nil,
        Nat.or_assoc]

theorem afterLastFlagsWrite_of_noFlagsWrite (opts : List Opt) (h : noFlagsWrite opts = true) :
    afterLastFlagsWrite opts = opts := by
  unfold afterLastFlagsWrite
  rw [takeWhile_of_all, List.reverse_reverse]
  intro o ho
  exact List.all_eq_true.mp h o (List.mem_reverse.mp ho)

theorem lastSet_flags_of_noFlagsWrite (opts : List Opt) (h : noFlagsWrite opts = true) (d : Nat) :
    lastSet opts 0 d = d := by
  apply lastSet_of_no_set
  intro o ho hn he
  have := List.all_eq_true.mp h o ho
  simp only [decide_eq_true_eq] at this
  exact this ⟨hn, he⟩

theorem procFlags_of_noFlagsWrite (opts : List Opt) (h : noFlagsWrite opts = true) :
    procFlags opts =
      bit opts "physical" 1 + bit opts "valid" 2 + bit opts "thread" 4 + bit opts "leaf" 8 +
        bit opts "identical" 16 := by
  rw [procFlags_eq, lastSet_flags_of_noFlagsWrite opts h, afterLastFlagsWrite_of_noFlagsWrite opts h,
    Nat.zero_or]
  simp [C11.flagSum, C11.flagBits, Nat.add_assoc]

theorem procFlags_congr (opts opts' : List Opt) (hs : ∀ nm, has opts nm = has opts' nm)
    (h : noFlagsWrite opts = true) (h' : noFlagsWrite opts' = true) : procFlags opts = procFlags opts' := by
  rw [procFlags_of_noFlagsWrite opts h, procFlags_of_noFlagsWrite opts' h']
  simp only [bit, hs]

theorem noFlagsWrite_of_not_has_set (opts : List Opt) (h : has opts "set" = false) :
    noFlagsWrite opts = true := by
  unfold noFlagsWrite
  rw [List.all_eq_true]
  intro o ho
  simp only [decide_eq_true_eq]
  exact fun hc => name_ne_of_not_has h o ho hc.1

theorem lastSet_of_not_has_set (opts : List Opt) (h : has opts "set" = false) (j d : Nat) :
    lastSet opts j d = d :=
  lastSet_of_no_set opts j d fun o ho hn => absurd hn (name_ne_of_not_has h o ho)

theorem proc_lastSet_lt (opts : List Opt) (hwf : opts.all (optWf .proc) = true) (j d : Nat) (hd : d < 2 ^ 32) :
    lastSet opts j d < 2 ^ 32 := by
  rw [← foldl_lastSet]
  induction opts generalizing d with
  | nil => exact hd
  | cons o os ih =>
    rw [List.all_cons, Bool.and_eq_true] at hwf
    rw [List.foldl_cons]
    apply ih hwf.2
    split
    · rename_i hc
      exact (optWf_proc_set o hwf.1 hc.1).2
    · exact hd

theorem procFlags_lt (opts : List Opt) (hwf : opts.all (optWf .proc) = true) : procFlags opts < 2 ^ 32 := by
  rw [procFlags_eq]
  apply Nat.or_lt_two_pow (proc_lastSet_lt opts hwf 0 0 (by decide))
  exact Nat.lt_of_le_of_lt (C11.flagSum_le _ _) (by decide)

end Acpi.ProcF
