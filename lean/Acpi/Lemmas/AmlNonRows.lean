/-
  C06 induction steps of the constructors that are no rows of the grammar table: leaves
  (constants, strings, names, locals, args), method invocations, the two aliases (C15), buffers
  with a declared size (`BufferData`, UUIDs, resource templates), EISA ids.
-/
import Acpi.Lemmas.AmlTable
import Acpi.Props.C16.Exact
import Acpi.Lemmas.Res
import Acpi.Props.C15
namespace Acpi.Lemmas.AmlParse
open Spec Spec.Aml Lemmas.Eisa

theorem TFact.int (env : Env) (n : Nat) (h : n < 2 ^ 64) : TFact env (Int.enc n) (intTm n) := by
  intro f rest hf
  obtain ⟨f, rfl⟩ := Nat.exists_eq_add_one_of_ne_zero (by omega : f ≠ 0)
  obtain ⟨b, t, he, hb⟩ := intEnc_head n
  have hd := C08.decode_enc n rest h
  rw [he, List.cons_append] at hd ⊢
  rw [parseTerm.eq_3]
  simp only [if_pos hb, hd, Option.map_some, intTm]

theorem step_int (env : Env) {op : Op} (v : List Nat → Nat)
    (hE : ∀ ints blobs kids, wf env (.node op ints blobs kids) = true →
      (Aml.node op ints blobs kids).enc = some (Int.enc (v ints)) ∧ v ints < 2 ^ 64)
    (hM : ∀ ints blobs kids, meaning (.node op ints blobs kids) = intTm (v ints)) : RTStep env op := by
  intro ints blobs kids _ bs rest fuel hwf _ henc hf
  obtain ⟨he, hlt⟩ := hE ints blobs kids hwf
  rw [hM]
  exact (TFact.int env _ hlt).finish (Option.some.inj (he ▸ henc)).symm hf

theorem step_zero (env : Env) : RTStep env .zero :=
  step_int env (fun _ => 0) (fun _ _ _ _ => ⟨rfl, by decide⟩) fun _ _ _ => rfl

theorem step_one (env : Env) : RTStep env .one :=
  step_int env (fun _ => 1) (fun _ _ _ _ => ⟨rfl, by decide⟩) fun _ _ _ => rfl

theorem step_u8 (env : Env) : RTStep env .u8 :=
  step_int env (·.getD 0 0) (fun ints _ _ h => by
    simp only [wf, Bool.and_eq_true, decide_eq_true_eq] at h
    rw [Aml.enc, C08.encU8_spec, UInt8.toNat_ofNat', Nat.mod_eq_of_lt h.2]
    exact ⟨rfl, by omega⟩) fun _ _ _ => rfl

theorem step_u16 (env : Env) : RTStep env .u16 :=
  step_int env (·.getD 0 0) (fun ints _ _ h => by
    simp only [wf, Bool.and_eq_true, decide_eq_true_eq] at h
    rw [Aml.enc, C08.encU16_spec, UInt16.toNat_ofNat', Nat.mod_eq_of_lt h.2]
    exact ⟨rfl, by omega⟩) fun _ _ _ => rfl

theorem step_u32 (env : Env) : RTStep env .u32 :=
  step_int env (·.getD 0 0) (fun ints _ _ h => by
    simp only [wf, Bool.and_eq_true, decide_eq_true_eq] at h
    rw [Aml.enc, C08.encU32_spec, UInt32.toNat_ofNat', Nat.mod_eq_of_lt h.2]
    exact ⟨rfl, by omega⟩) fun _ _ _ => rfl

theorem step_u64 (env : Env) : RTStep env .u64 :=
  step_int env (·.getD 0 0) (fun ints _ _ h => by
    simp only [wf, Bool.and_eq_true, decide_eq_true_eq] at h
    rw [Aml.enc, C08.encU64_spec, UInt64.toNat_ofNat', Nat.mod_eq_of_lt h.2]
    exact ⟨rfl, h.2⟩) fun _ _ _ => rfl

theorem step_usize (env : Env) : RTStep env .usize :=
  step_int env (·.getD 0 0) (fun ints _ _ h => by
    simp only [wf, Bool.and_eq_true, decide_eq_true_eq] at h
    rw [Aml.enc, C08.encUsize_spec _ h.2]
    exact ⟨rfl, h.2⟩) fun _ _ _ => rfl

theorem step_str (env : Env) : RTStep env .str := by
  intro ints blobs kids ih bs rest fuel hwf hok henc hf
  simp only [wf, Bool.and_eq_true, Bool.not_eq_true', List.contains_eq_mem, decide_eq_false_iff_not] at hwf
  simp only [Aml.enc, Option.some.injEq] at henc
  subst henc
  have hm : meaning (.node .str ints blobs kids) = .node .str [] [blobs.getD 0 []] .nil := rfl
  rw [hm]
  obtain ⟨f, rfl⟩ := Nat.exists_eq_add_one_of_ne_zero (by omega : fuel ≠ 0)
  have := parseTerm_str env f (blobs.getD 0 []) rest hwf.2
  simpa only [List.cons_append, List.nil_append, List.append_assoc] using this

theorem step_local (env : Env) : RTStep env .local_ := by
  intro ints blobs kids _ bs rest fuel _ _ henc hf
  obtain ⟨h7, rfl⟩ := local_enc_some henc
  obtain ⟨f, rfl⟩ := Nat.exists_eq_add_one_of_ne_zero (by omega : fuel ≠ 0)
  exact parseTerm_local env f _ rest h7

theorem step_arg (env : Env) : RTStep env .arg := by
  intro ints blobs kids _ bs rest fuel _ _ henc hf
  obtain ⟨h6, rfl⟩ := arg_enc_some henc
  obtain ⟨f, rfl⟩ := Nat.exists_eq_add_one_of_ne_zero (by omega : fuel ≠ 0)
  exact parseTerm_arg env f _ rest h6

theorem step_path (env : Env) : RTStep env .path := by
  intro ints blobs kids ih bs rest fuel hwf hok henc hf
  simp only [wf, Bool.and_eq_true, decide_eq_true_eq] at hwf
  obtain ⟨_, hpo, har⟩ := hwf
  simp only [Aml.enc] at henc
  have hm : meaning (.node .path ints blobs kids) = nameOf (blobs.getD 0 []) := rfl
  rw [hm, nameOf_eq]
  obtain ⟨f, rfl⟩ := Nat.exists_eq_add_one_of_ne_zero (by omega : fuel ≠ 0)
  obtain ⟨hd, b, t, rfl, hb⟩ := pathEnc_decode _ bs rest henc hpo
  exact parseTerm_name env f b (t ++ rest) rest rest _ _ .nil hb hd (by rw [har]; exact parseTerms_zero env f rest)

theorem step_call (env : Env) : RTStep env .call := by
  intro ints blobs kids ih bs rest fuel hwf hok henc hf
  simp only [wf, Bool.and_eq_true, decide_eq_true_eq] at hwf
  obtain ⟨hws, ⟨hpo, hall⟩, har⟩ := hwf
  obtain ⟨p, d, hp, hd, rfl⟩ := call_enc_some henc
  have hm : meaning (.node .call ints blobs kids) =
      mkName (pathOf (blobs.getD 0 [])).1 (pathOf (blobs.getD 0 [])).2 (TmList.ofList (meanings kids)) := rfl
  rw [hm]
  simp only [List.length_append] at hf
  obtain ⟨f, rfl⟩ := Nat.exists_eq_add_one_of_ne_zero (by omega : fuel ≠ 0)
  obtain ⟨hdec, b, t, rfl, hb⟩ := pathEnc_decode _ p (d ++ rest) hp hpo
  have hlen := AmlList.length_toList kids
  rw [List.append_assoc]
  refine parseTerm_name env f b (t ++ (d ++ rest)) (d ++ rest) rest _ _ _ hb hdec ?_
  rw [har, hlen]
  exact parseTerms_kids env kids d ih hws hall hd f rest (by simp only [List.length_cons] at hf; omega)

theorem step_alias (env : Env) {op op' : Op} (h : RTStep env op')
    (hE : ∀ ints blobs kids, (Aml.node op ints blobs kids).enc = (Aml.node op' ints blobs kids).enc)
    (hW : ∀ ints blobs kids, wf env (.node op ints blobs kids) = wf env (.node op' ints blobs kids))
    (hM : ∀ ints blobs kids, meaning (.node op ints blobs kids) = meaning (.node op' ints blobs kids))
    (hk : ∀ ints blobs kids, okTerm (.node op' ints blobs kids) = true) : RTStep env op := by
  intro ints blobs kids ih bs rest fuel hwf _ henc hf
  rw [hM]
  exact h ints blobs kids ih bs rest fuel (hW _ _ _ ▸ hwf) (hk _ _ _) (hE _ _ _ ▸ henc) hf

theorem step_scoperaw (env : Env) : RTStep env .scoperaw :=
  step_alias env (step_row env (op := .scope) fun _ _ => rfl) C15.scoperaw_eq_scope (fun _ _ _ => rfl)
    (fun _ _ _ => rfl) fun _ _ _ => rfl

theorem step_pkgb (env : Env) : RTStep env .pkgb :=
  step_alias env (step_row env (op := .pkg) fun _ _ => rfl) C15.pkgb_eq_pkg (fun _ _ _ => rfl)
    (fun _ _ _ => rfl) fun _ _ _ => rfl

/-- a buffer whose declared size is its payload length -/
theorem TFact.buffer (env : Env) (data bs : Bytes)
    (hobj : pkgObj [0x11] (encUsize (UInt64.ofNat data.length) ++ data) = some bs) :
    TFact env bs (.node (.op 0x11) [] [data] (TmList.cons (intTm data.length) .nil)) := by
  obtain ⟨hlt, hpl, rfl, _⟩ := buffer_some hobj
  exact TFact.framed (env := env) (.plain 0x11 _ (by decide) (by decide) rfl) (ss := [.T]) rfl
    (by decide) (.T (TFact.int env data.length (by omega)) .nil) .bytes (by simp only [List.append_nil]) hpl

theorem step_buf (env : Env) : RTStep env .buf := by
  intro ints blobs kids ih bs rest fuel hwf hok henc hf
  simp only [Aml.enc] at henc
  have hm : meaning (.node .buf ints blobs kids) =
      .node (.op 0x11) [] [blobs.getD 0 []] (TmList.cons (intTm (blobs.getD 0 []).length) .nil) := rfl
  rw [hm]
  exact (TFact.buffer env _ bs henc).finish rfl hf

theorem upper_range (c : Char) (h : isUpperLetterC c = true) : 64 ≤ c.toNat ∧ c.toNat < 96 := by
  simp only [isUpperLetterC, Bool.and_eq_true, decide_eq_true_eq, Char.le_def, UInt32.le_iff_toNat_le] at h
  have : c.toNat = c.val.toNat := rfl
  simp only [Char.reduceVal, UInt32.reduceToNat] at h
  omega

theorem isHexC_iff (c : Char) : isHexC c = true ↔ (toDigit16 c).isSome := by
  rw [C16.toDigit16_isSome_iff]
  simp [isHexC, or_assoc]

theorem eisa_value (cs : List Char) (hl : cs.length = 7) (hu : (cs.take 3).all isUpperLetterC = true)
    (hh : (cs.drop 3).all isHexC = true) :
    ∃ v, eisaValue (cs.map (fun c => UInt8.ofNat c.toNat)) cs = some v ∧ v.toNat = Eisa.compress cs := by
  match cs, hl with
  | [c0, c1, c2, c3, c4, c5, c6], _ =>
    simp only [List.take_succ_cons, List.take_zero, List.drop_succ_cons, List.drop_zero, List.all_cons,
      List.all_nil, Bool.and_true, Bool.and_eq_true] at hu hh
    exact eisaValue_compress _ _ _ _ _ _ _ (upper_range _ hu.1) (upper_range _ hu.2.1) (upper_range _ hu.2.2)
      ((isHexC_iff _).mp hh.1) ((isHexC_iff _).mp hh.2.1) ((isHexC_iff _).mp hh.2.2.1) ((isHexC_iff _).mp hh.2.2.2)

theorem uuid_value (cs : List Char) (hl : cs.length = 36)
    (h : (List.range 36).all (fun j =>
      if j = 8 ∨ j = 13 ∨ j = 18 ∨ j = 23 then decide (cs.getD j 'x' = '-') else isHexC (cs.getD j 'x')) = true) :
    uuidBytes cs = some (Eisa.uuidToBuffer cs) := by
  simp only [List.all_eq_true, List.mem_range] at h
  refine (C16.uuid_eq_some_iff cs _).mpr ⟨⟨hl, fun j hj => ?_⟩, rfl⟩
  have := h j hj
  rw [getElem!_eq_getD cs j (hl ▸ hj) 'x']
  split
  · next hd => simpa only [if_pos hd, decide_eq_true_eq] using this
  · next hd =>
    rw [if_neg hd] at this
    exact (isHexC_iff _).mp this

theorem step_eisa (env : Env) : RTStep env .eisa := by
  intro ints blobs kids ih bs rest fuel hwf hok henc hf
  simp only [wf, Bool.and_eq_true, decide_eq_true_eq] at hwf
  obtain ⟨_, ⟨⟨hl, hu⟩, hh⟩, hb⟩ := hwf
  obtain ⟨v, hv, hc⟩ := eisa_value _ hl hu hh
  simp only [Aml.enc, eisaEnc, hb, hv, Option.map_some, Option.some.injEq, C08.encU32_spec, hc] at henc
  have hm : meaning (.node .eisa ints blobs kids) = intTm (Eisa.compress (ints.map Char.ofNat)) := rfl
  rw [hm]
  have hlt : Eisa.compress (ints.map Char.ofNat) < 2 ^ 64 := by
    rw [← hc]; have := v.toNat_lt; omega
  exact (TFact.int env _ hlt).finish henc.symm hf

theorem step_uuid (env : Env) : RTStep env .uuid := by
  intro ints blobs kids ih bs rest fuel hwf hok henc hf
  simp only [wf, Bool.and_eq_true, decide_eq_true_eq] at hwf
  obtain ⟨_, hl, hall⟩ := hwf
  have hv := uuid_value _ hl hall
  simp only [Aml.enc, hv, Option.bind_some] at henc
  have hm : meaning (.node .uuid ints blobs kids) =
      .node (.op 0x11) [] [Eisa.uuidToBuffer (ints.map Char.ofNat)]
        (TmList.cons (intTm (Eisa.uuidToBuffer (ints.map Char.ofNat)).length) .nil) := rfl
  rw [hm]
  exact (TFact.buffer env _ bs henc).finish rfl hf

/-- the children `wf` admits in a resource template -/
def descOk : Aml → Bool
  | .node o is _ _ => isDesc o && descWfB o is

theorem catOpt_encs_eq_resBytes (kids : AmlList) (d : Bytes) (hk : kids.toList.all descOk = true)
    (hd : catOpt (AmlList.encs kids) = some d) : d = (resBytes kids).flatten := by
  induction kids, d, hd using catOpt_encs_induction with
  | nil => rfl
  | cons a r ea dr he _ ihr =>
    obtain ⟨op, ints, blobs, k⟩ := a
    have hk' := all_cons hk
    simp only [descOk, Bool.and_eq_true] at hk'
    simp only [resBytes, List.flatten_cons]
    rw [Res.desc_enc op ints blobs k ea hk'.1.1 he, ihr hk'.2]

theorem step_rt (env : Env) : RTStep env .rt := by
  intro ints blobs kids ih bs rest fuel hwf hok henc hf
  simp only [wf, Bool.and_eq_true] at hwf
  obtain ⟨_, hall⟩ := hwf
  have hall' : kids.toList.all descOk = true := hall
  obtain ⟨d, hd, hobj⟩ := rt_enc_some henc
  have hm : meaning (.node .rt ints blobs kids) =
      .node (.op 0x11) [] [d ++ [0x79, 0x00]] (TmList.cons (intTm (d ++ [0x79, 0x00]).length) .nil) := by
    rw [catOpt_encs_eq_resBytes kids d hall' hd]; rfl
  rw [hm]
  exact (TFact.buffer env _ bs hobj).finish rfl hf

end Acpi.Lemmas.AmlParse
