/-
  C14 — output is deterministic and independent of the receiving sink.

  Determinism itself is `enc` being a *function* of the object: true of the model by
  construction, tied to the code by the correspondence check (every object of every stream
  is serialised twice and into six sinks).  What is proved here is sink independence:
  only the concatenation of the bytes matters.
-/
import Acpi.Lemmas.Sink
import Acpi.Props.C17
import Acpi.Tables.Fields
namespace Acpi.C14
open Sink

/-- **C14 (chunking irrelevance)**: for any sink lawful w.r.t. an abstraction `abs`, feeding a
    call list appends exactly the bytes the calls denote — so two call lists with the same
    concatenation are indistinguishable, however they chunk the bytes across byte / word /
    dword / qword / slice entry points. -/
theorem chunking_irrelevant {σ : Type} (S : Sink σ) (abs : σ → Bytes) (h : Lawful S abs) (s : σ)
    (cs cs' : List SinkCall) (he : flatten cs = flatten cs') :
    abs (feed S s cs) = abs (feed S s cs') := by
  rw [feed_lawful S abs h, feed_lawful S abs h, he]

/-- the built-in vector sink (`impl AmlSink for Vec<u8>`, both overrides) is lawful -/
theorem vec_sink_lawful : Lawful vecSink id where
  byte _ _ := rfl
  word _ _ := rfl
  dword _ _ := rfl
  qword _ _ := rfl
  vec _ _ := rfl

/-- a user sink implementing only the mandatory `byte` (by appending it) is lawful through the
    trait's default `word/dword/qword/vec` -/
theorem byte_only_sink_lawful {σ : Type} (byte : σ → UInt8 → σ) (abs : σ → Bytes)
    (hb : ∀ s b, abs (byte s b) = abs s ++ [b]) : Lawful (ofByte byte) abs where
  byte := hb
  word s _ := foldl_byte_lawful byte abs hb s _
  dword s _ := foldl_byte_lawful byte abs hb s _
  qword s _ := foldl_byte_lawful byte abs hb s _
  vec s v := foldl_byte_lawful byte abs hb s v

/-- `impl AmlSink for PackageBuilder` (aml.rs:310-318): `byte` pushes, `vec` extends, the rest
    default -/
def pkgBuilderSink : Sink Bytes where
  byte s b := s ++ [b]
  word s w := s ++ u16le w
  dword s d := s ++ u32le d
  qword s q := s ++ u64le q
  vec s v := s ++ v

/-- `PackageBuilder` is lawful on its `data` vector -/
theorem pkg_builder_sink_lawful : Lawful pkgBuilderSink id := vec_sink_lawful

/-- the `Checksum` sink: its abstraction is the running sum — feeding any call list moves the
    raw value by the sum of the concatenation, whatever the chunking -/
theorem checksum_sink (c : Cks) (cs : List SinkCall) :
    (feed Cks.sink c cs).raw = c.raw + sum8 (flatten cs) := by
  rw [C17.sink_feed, C17.append_raw]

/-- **C14 (byte-sum helper)**: `u8sum(x)` — serialise into a fresh `Checksum`, read the raw
    value — is the arithmetic sum of the serialised bytes, for every call list an object may
    emit. -/
theorem u8sum_is_sum (cs : List SinkCall) : (feed Cks.sink {} cs).raw = sum8 (flatten cs) := by
  have := checksum_sink {} cs
  simpa [Cks.raw] using this

theorem toCall_bytes (f : Fld) : f.toCall.bytes = f.bytes := by
  unfold Fld.toCall
  split <;> simp only [SinkCall.bytes, Fld.bytes, leN_one, u16le_ofNat, u32le_ofNat, u64le_ofNat]

/-- **C14 (raw form = serialised form)**: in the model a structure that can be added through its
    in-memory form (`as_bytes()` of a `#[repr(C, packed)]` struct) has *one* description, its
    field sequence; both `as_bytes()` and `to_aml_bytes` are `encFields (fields k a)`, and the
    sink calls a hand-written serialiser makes (`Fld.toCall`) flatten to the same bytes. -/
theorem calls_flatten_to_fields (fs : List Fld)
    (hw : ∀ f ∈ fs, match f with | .num w _ => w = 1 ∨ w = 2 ∨ w = 4 ∨ w = 8 | .raw _ => True) :
    flatten (fs.map Fld.toCall) = encFields fs := by
  have _ := hw -- other widths go through `vec`: `toCall_bytes` covers them
  rw [flatten, List.flatMap_map, encFields]
  exact congrArg (List.flatMap · fs) (funext toCall_bytes)

end Acpi.C14
