/-
  C01 — the tables that are not built by the append engine carry a valid checksum
  after construction and after every builder operation (FACS has no checksum and is exempt).
-/
import Acpi.Lemmas.FixedImage
namespace Acpi.C01

/-- the from-scratch / accumulate-everything checksum makes any header-bearing image sum to 0 -/
theorem fixedImage_sum_zero (sig : Bytes) (lenLit : Nat) (rev : UInt8) (o : Oem) (body : Bytes) :
    sum8 (fixedImage sig lenLit rev o body) = 0 :=
  sum8_with_cksum _ _ _ _ _ _ (raw_append_append _ _)

/-- **C01 (fixed tables)**: FADT (for all values of all public fields and all builder calls),
    BERT, SPCR, TCPA client and server (after `new` and after every builder, any order), TPM2
    (before and after `set_log_area`), SLIT (after every `set_distance`, diagonal and mirrored
    ones included): the image sums to zero after every program that does not panic. -/
theorem fixed_sum_zero (t : FixedT) (o : Oem) (c : EArgs) (ops : List Opt) (s : FixedState)
    (ht : t ≠ .facs ∧ t ≠ .rsdp) (hrun : runFixed t o c ops = some s) : sum8 s.image = 0 :=
  (image_sdt ht hrun).sum

/-- **C01 (RSDP)**: both the first 20 bytes and the whole 36 bytes sum to zero. -/
theorem rsdp_sums (o : Oem) (c : EArgs) (ops : List Opt) (s : FixedState) (ho : o.id.length = 6)
    (hrun : runFixed .rsdp o c ops = some s) :
    sum8 (s.image.take 20) = 0 ∧ sum8 s.image = 0 ∧ s.image.length = 36 := by
  obtain ⟨k, e, hi, hk, he⟩ := rsdp_image hrun
  obtain ⟨l20, l36⟩ := length_rsdp o c k e ho
  rw [hi]
  exact ⟨by rw [List.take_left' l20]; exact hk, he, l36⟩

end Acpi.C01
