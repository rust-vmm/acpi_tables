/-
  C04/C12 for the SLIT: cell (i, j) of the matrix after a program is the last distance assigned
  to the unordered pair {i, j}, else 10; the image is the header, the locality count and the
  matrix in row-major order.
-/
import Acpi.Lemmas.FixedImage
namespace Acpi.C04
open Spec

/-- does call `o` assign the unordered pair {i, j}? -/
def slitP (i j : Nat) (o : Opt) : Bool :=
  decide (o.name = "dist" ∧ ((o.arg 0 = i ∧ o.arg 1 = j) ∨ (o.arg 0 = j ∧ o.arg 1 = i)))

/-- last distance assigned to {i, j}, else `d` -/
def cellVal (d : Nat) (ops : List Opt) (i j : Nat) : Nat :=
  (((ops.filter (slitP i j)).getLast?).map (·.arg 2)).getD d

theorem slitCell_eq (ops : List Opt) (i j : Nat) : slitCell ops i j = cellVal 10 ops i j := rfl

theorem cellVal_nil (d i j : Nat) : cellVal d [] i j = d := rfl

/-- after the program, cell (i, j) holds the last distance assigned to {i, j} by
    the program text, else what it held before -/
theorem slit_cells (ops : List Opt) : ∀ (s s' : FixedState), SlitInv s → runFixedFrom s ops = some s' →
    SlitInv s' ∧ s'.a = s.a ∧ s'.oem = s.oem ∧
    ∀ i j, i < s.a.num 0 → j < s.a.num 0 →
      s'.cells.getD (i * s.a.num 0 + j) 0 = cellVal (s.cells.getD (i * s.a.num 0 + j) 0) ops i j := by
  induction ops with
  | nil => intro s s' I h; cases h; exact ⟨I, rfl, rfl, fun i j _ _ => rfl⟩
  | cons o os ih =>
    intro s s' I h
    obtain ⟨s1, h1, h2⟩ := runFixedFrom_cons_some h
    have I1 := slitInv_step s o s1 I h1
    have S := step_slit_some I.t h1
    obtain ⟨I', ha', ho', hcells⟩ := ih s1 s' I1 h2
    refine ⟨I', ha'.trans S.a, ho'.trans S.oem, ?_⟩
    intro i j hi hj
    rw [S.a] at hcells
    rw [hcells i j hi hj, cellVal, cellVal, Builder.last_cons]
    congr 1
    -- left to show: what the two `set`s leave in cell (i, j) is `o.arg 2` if the call assigns
    -- {i, j}, else the old value; the first `set` is at row `o.arg 1`, column `o.arg 0`
    have r1 := I.len ▸ S.lt₁
    have r2 := I.len ▸ S.lt₂
    have hn := S.name
    rw [S.cells, getD_set _ _ _ _ _ (by rw [List.length_set]; exact S.lt₂), getD_set _ _ _ _ _ S.lt₁]
    have e1 := slit_flat_inj (b := o.arg 0) (i := i) (slit_row_lt r1) hj
    have e2 := slit_flat_inj (b := o.arg 1) (i := i) (slit_row_lt r2) hj
    unfold slitP
    by_cases c1 : o.arg 0 = i ∧ o.arg 1 = j
    · rw [if_pos (e1.mpr c1)]; simp [hn, c1]
    · rw [if_neg (fun h => c1 (e1.mp h))]
      by_cases c2 : o.arg 1 = i ∧ o.arg 0 = j
      · rw [if_pos (e2.mpr c2)]; simp [hn, c2]
      · rw [if_neg (fun h => c2 (e2.mp h))]
        have : ¬ (o.arg 0 = j ∧ o.arg 1 = i) := fun h => c2 ⟨h.2, h.1⟩
        simp [hn, c1, this]

theorem conforms_slit (o : Oem) (c : EArgs) (ops : List Opt) (s : FixedState) (e : Nat)
    (h1 : o.id.length = 6) (h2 : o.table.length = 8) (hrun : runFixed .slit o c ops = some s) :
    conforms (fixedRows .slit o c ops (s.image.getD 8 0).toNat (s.image.getD 9 0).toNat e).1
      (fixedRows .slit o c ops (s.image.getD 8 0).toNat (s.image.getD 9 0).toNat e).2 s.image = none := by
  obtain ⟨s0, h0, hr⟩ := runFixed_some hrun
  obtain ⟨I0, ha0, ho0, hc0, hlt⟩ := slitInv_new h0
  obtain ⟨I, ha, ho, hcells⟩ := slit_cells ops s0 s I0 hr
  rw [ha0] at ha hcells
  rw [ho0] at ho
  have hlen := I.len
  rw [ha] at hlen
  have hcell : ∀ i j, i < c.num 0 → j < c.num 0 →
      s.cells.getD (i * c.num 0 + j) 0 = slitCell ops i j := by
    intro i j hi hj
    rw [hcells i j hi hj, hc0, slitCell_eq]
    congr 1
    rw [List.getD_eq_getElem?_getD, List.getElem?_replicate, if_pos (slit_row_major_lt hi hj)]
    rfl
  rw [image_slit s I.t, ha, ho]
  unfold fixedRows slitHead
  dsimp only
  rw [Nat.add_comm (c.num 0 * c.num 0) 44, List.append_assoc, List.append_assoc]
  have L := lays_matrix 44 1 (c.num 0) (c.num 0) (slitCell ops)
  simp only [Nat.one_mul, ← Nat.add_assoc] at L
  refine conforms_hdrRows_observed _ (44 + c.num 0 * c.num 0) _ _ _ _ _ rfl h1 h2 ?_ ?_
  · simp only [List.cons_append, List.nil_append, tilesFrom, Row.off, Row.width, beq_self_eq_true, Bool.true_and]
    exact L.1
  · rw [render_append, ← L.2, ← cells_eq_grid s.cells (c.num 0) (slitCell ops) hlen hcell]
    rw [show leN 1 = fun n => [UInt8.ofNat n] from funext leN_one, ← List.map_eq_flatMap]
    rfl

/-- in-range `set_distance` calls never panic -/
theorem slit_accepts_from (ops : List Opt) : ∀ (s : FixedState), SlitInv s →
    (∀ op ∈ ops, op.name = "dist" ∧ op.arg 0 < s.a.num 0 ∧ op.arg 1 < s.a.num 0) →
    ∃ s', runFixedFrom s ops = some s' := by
  induction ops with
  | nil => intro s _ _; exact ⟨s, rfl⟩
  | cons o os ih =>
    intro s I hops
    obtain ⟨hn, ha, hb⟩ := hops o (List.mem_cons_self ..)
    have r1 : ¬ (s.cells.length ≤ o.arg 0 + s.a.num 0 * o.arg 1 ∨
        s.cells.length ≤ o.arg 1 + s.a.num 0 * o.arg 0) := by
      rw [I.len]
      have e1 := slit_row_major_lt hb ha
      have e2 := slit_row_major_lt ha hb
      rw [Nat.mul_comm (o.arg 1)] at e1
      rw [Nat.mul_comm (o.arg 0)] at e2
      omega
    have hstep : ∃ s1, s.step o = some s1 := by
      unfold FixedState.step
      rw [I.t]
      simp only [hn, if_true, if_neg r1]
      split <;> exact ⟨_, rfl⟩
    obtain ⟨s1, h1⟩ := hstep
    have I1 := slitInv_step s o s1 I h1
    have ha1 : s1.a = s.a := (step_slit_some I.t h1).a
    obtain ⟨s', h'⟩ := ih s1 I1 (fun op hop => by rw [ha1]; exact hops op (List.mem_cons_of_mem _ hop))
    exact ⟨s', by unfold runFixedFrom; rw [h1]; exact h'⟩

end Acpi.C04
