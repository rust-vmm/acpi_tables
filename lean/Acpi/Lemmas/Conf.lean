/-
  What is used of an image that conforms to reference rows (`conforms total rs img = none`): its
  size, and every field read back at its offset.  `numAt` looks a field up in the rows, so that on
  a rows table whose fixed part is written out "the row at (off, w) holds v" is `rfl`.
-/
import Acpi.Lemmas.Layout
namespace Acpi.Spec

/-- the value of the numeric row at (`off`, `w`) -/
def numAt (rs : List Row) (off w : Nat) : Option Nat :=
  rs.findSome? fun | .num o w' v => if o = off ∧ w' = w then some v else none | .raw _ _ => none

theorem mem_of_numAt {rs : List Row} {off w v : Nat} (h : numAt rs off w = some v) : Row.num off w v ∈ rs := by
  obtain ⟨r, hr, hv⟩ := List.exists_of_findSome?_eq_some h
  cases r with
  | raw => cases hv
  | num o w' v' =>
    by_cases e : o = off ∧ w' = w
    · obtain ⟨rfl, rfl⟩ := e
      simp only [and_self, if_true, Option.some.injEq] at hv
      exact hv ▸ hr
    · simp only [if_neg e] at hv; cases hv

section
variable {total : Nat} {rs : List Row} {img : Bytes} (h : conforms total rs img = none)
include h

theorem conforms.eq_render : tilesFrom 0 total rs = true ∧ img = render rs :=
  (conforms_none_iff total rs img).mp h

theorem conforms.length : img.length = total := by
  obtain ⟨ht, rfl⟩ := conforms.eq_render h
  simpa using tilesFrom_length 0 total rs ht

theorem conforms.holds {r : Row} (hm : r ∈ rs) : rowHolds img r = true := by
  obtain ⟨ht, rfl⟩ := conforms.eq_render h
  simpa using rowHolds_of_tiles 0 total [] rs rfl ht r hm

theorem conforms.le {r : Row} (hm : r ∈ rs) : r.off + r.width ≤ total := by
  have := conforms.holds h hm
  rw [rowHolds, Bool.and_eq_true, decide_eq_true_eq, conforms.length h] at this
  exact this.1

theorem conforms.field {off w v : Nat} (hm : Row.num off w v ∈ rs) :
    readAt img off w = some (v % 256 ^ w) := by
  have := conforms.holds h hm
  simp only [rowHolds, Row.off, Row.width, Row.bytes, Bool.and_eq_true, beq_iff_eq] at this
  rw [readAt, if_pos (of_decide_eq_true this.1), this.2, fromLE_leN]

theorem conforms.raw {off : Nat} {bs : Bytes} (hm : Row.raw off bs ∈ rs) : (img.drop off).take bs.length = bs := by
  have := conforms.holds h hm
  simp only [rowHolds, Row.off, Row.width, Row.bytes, Bool.and_eq_true, beq_iff_eq] at this
  exact this.2

theorem conforms.byte {off : Nat} {bs : Bytes} (hm : Row.raw off bs ∈ rs) (i : Nat) (hi : i < bs.length)
    (d : UInt8) : img.getD (off + i) d = bs.getD i d := by
  rw [List.getD_eq_getElem?_getD, List.getD_eq_getElem?_getD, ← List.getElem?_drop,
    ← List.getElem?_take_of_lt hi, conforms.raw h hm]

theorem conforms.at {off w v : Nat} (hv : numAt rs off w = some v) : readAt img off w = some (v % 256 ^ w) :=
  conforms.field h (mem_of_numAt hv)

theorem conforms.at_lt {off w v : Nat} (hv : numAt rs off w = some v) (hlt : v < 256 ^ w) :
    readAt img off w = some v := by
  rw [conforms.at h hv, Nat.mod_eq_of_lt hlt]

theorem conforms.at_getD {off w v : Nat} (hv : numAt rs off w = some v) (hlt : v < 256 ^ w) :
    (readAt img off w).getD 0 = v := by
  rw [conforms.at_lt h hv hlt]; rfl

end

end Acpi.Spec
