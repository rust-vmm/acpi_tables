/-
  The names that the tactic abbreviations `fadt_slot` and `tcpas_slot` (Acpi.Lemmas.FixedFadt,
  Acpi.Lemmas.FixedTcpas) quote through `open Acpi.C04.Madt`; each is an instance of
  Acpi.Lemmas.Builder.
-/
import Acpi.Lemmas.Builder
namespace Acpi.C04.Madt
open Acpi Spec

@[simp] theorem size_setNum (a : EArgs) (i v : Nat) : (a.setNum i v).n.size = a.n.size :=
  Builder.size_setNum a i v

@[simp] theorem num_setNum (a : EArgs) (i v j : Nat) :
    (a.setNum i v).num j = if i = j ∧ i < a.n.size then v else a.num j := Builder.num_setNum a i v j

@[simp] theorem size_orNum (a : EArgs) (i v : Nat) : (a.orNum i v).n.size = a.n.size :=
  Builder.size_orNum a i v

@[simp] theorem num_orNum (a : EArgs) (i b j : Nat) :
    (a.orNum i b).num j = if i = j ∧ i < a.n.size then a.num i ||| b else a.num j := Builder.num_orNum a i b j

end Acpi.C04.Madt
