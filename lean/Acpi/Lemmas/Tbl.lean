/-
  The table engine (`Tbl`, `runAdds`).  Everything a run establishes is one invariant, `Ran`, and
  `Ran.of_run` is the only induction that proves facts about the engine state: `CksInv` for the
  checksum accumulator, `offsetsFrom` for the handles handed out.  `image_of_run` is the normal form
  of the final image (a head of `firstOffset` bytes, then the entries); the property theorems
  C01/C02/C03/C05 read their claims off these.  Then: reading the head fields back (`readAt_length`,
  `readAt_count`, `readAt_post`).
-/
import Acpi.Tbl
import Acpi.Lemmas.Header
namespace Acpi

/-- run a history of adds; each entry is `(raw bytes, claimed length)`; the code feeds its
    accumulator the byte sum of the entry (`u8sum(&e)` / `as_bytes()`; C14 shows these are
    `sum8` of the serialised bytes).  Returns the handles handed out and the final state;
    `none`: some add panicked. -/
def runAdds (t : Tbl) : List (Bytes × Nat) → Option (List Nat × Tbl)
  | [] => some ([], t)
  | (raw, claimed) :: es =>
    match t.add raw claimed (sum8 raw) with
    | none => none
    | some (h, t') => (runAdds t' es).map fun (hs, t'') => (h :: hs, t'')

/-- the state after a successful `add` (the record built by `Tbl.add.go`) -/
def Tbl.step (t : Tbl) (raw : Bytes) (claimed : Nat) (fed : UInt8) : Tbl :=
  let newLen := t.length + UInt32.ofNat claimed
  let c1 := ((t.cks.delete (u32le t.length)).append (u32le newLen)).add fed
  let c2 := if t.cfg.cw = 0 then c1
            else (c1.delete (leN t.cfg.cw t.count)).append (leN t.cfg.cw (t.count + 1))
  { t with length := newLen, cks := c2, hdrCks := c2.cksum, count := t.count + 1,
           handleOffset := t.handleOffset + claimed, body := t.body ++ [raw] }

theorem Tbl.go_eq (t : Tbl) (raw : Bytes) (cl : Nat) (fed : UInt8) :
    Tbl.add.go t raw cl fed = some (t.handleOffset, t.step raw cl fed) := rfl

theorem Tbl.add_eq_some {t : Tbl} {raw : Bytes} {cl : Nat} {fed : UInt8} {r : Nat × Tbl}
    (e : t.add raw cl fed = some r) :
    (∀ m, t.cfg.maxOffset = some m → t.handleOffset + cl ≤ m) ∧
      r = (t.handleOffset, t.step raw cl fed) := by
  unfold Tbl.add at e
  rw [Tbl.go_eq] at e
  split at e
  · rename_i m hm
    split at e
    · cases e
    · cases e
      refine ⟨fun m' h' => ?_, rfl⟩
      rw [hm] at h'; cases h'; omega
  · rename_i hm
    cases e
    refine ⟨fun m' h' => ?_, rfl⟩
    rw [hm] at h'; cases h'

theorem runAdds_cons {t : Tbl} {e : Bytes × Nat} {es : List (Bytes × Nat)} {hs : List Nat}
    {t' : Tbl} :
    runAdds t (e :: es) = some (hs, t') ↔
      ∃ h t1 hs', t.add e.1 e.2 (sum8 e.1) = some (h, t1) ∧ runAdds t1 es = some (hs', t') ∧
        hs = h :: hs' := by
  obtain ⟨raw, cl⟩ := e
  rw [runAdds]
  cases t.add raw cl (sum8 raw) with
  | none => simp
  | some r =>
    obtain ⟨h, t1⟩ := r
    simp only [Option.map_eq_some_iff, Option.some.injEq, Prod.mk.injEq]
    constructor
    · rintro ⟨⟨hs', t2⟩, hr, rfl, rfl⟩; exact ⟨h, t1, hs', ⟨rfl, rfl⟩, hr, rfl⟩
    · rintro ⟨_, _, hs', ⟨rfl, rfl⟩, hr, rfl⟩; exact ⟨(hs', t'), hr, rfl, rfl⟩

/-- running sums from `b`: the handles a history hands out -/
def offsetsFrom (b : Nat) : List Nat → List Nat
  | [] => []
  | n :: ns => b :: offsetsFrom (b + n) ns

@[simp] theorem length_offsetsFrom (b : Nat) (ns : List Nat) :
    (offsetsFrom b ns).length = ns.length := by
  induction ns generalizing b with
  | nil => rfl
  | cons n ns ih => simp [offsetsFrom, ih]

theorem getElem?_offsetsFrom (b : Nat) (ns : List Nat) (i : Nat) (hi : i < ns.length) :
    (offsetsFrom b ns)[i]? = some (b + (ns.take i).sum) := by
  induction ns generalizing b i with
  | nil => simp at hi
  | cons n ns ih =>
    cases i with
    | zero => simp [offsetsFrom]
    | succ i =>
      simp only [offsetsFrom, List.getElem?_cons_succ, List.take_succ_cons, List.sum_cons,
        ih _ i (by simpa using hi), Nat.add_assoc]

theorem offsetsFrom_append (b : Nat) (ns ms : List Nat) :
    offsetsFrom b (ns ++ ms) = offsetsFrom b ns ++ offsetsFrom (b + ns.sum) ms := by
  induction ns generalizing b with
  | nil => simp [offsetsFrom]
  | cons n ns ih => simp [offsetsFrom, ih, Nat.add_assoc]

theorem le_of_mem_offsetsFrom {b : Nat} {ns : List Nat} {h : Nat} (hm : h ∈ offsetsFrom b ns) :
    h ≤ b + ns.sum := by
  induction ns generalizing b with
  | nil => cases hm
  | cons n ns ih =>
    simp only [offsetsFrom, List.mem_cons, List.sum_cons] at hm ⊢
    rcases hm with rfl | hm
    · omega
    · have := ih hm; omega

/-- the accumulator tracks the image with a zero checksum byte; the stored checksum is the
    accumulator's -/
def CksInv (t : Tbl) : Prop :=
  t.cks.raw = sum8 (hdrBytes t.cfg.sig t.length t.cfg.rev 0 t.oem) + sum8 t.cfg.pre +
      sum8 (leN t.cfg.cw t.count) + sum8 t.cfg.post + sum8 t.body.flatten ∧
  t.hdrCks = t.cks.cksum

theorem CksInv_new (c : TblCfg) (o : Oem) : CksInv (Tbl.new c o) := by
  unfold CksInv Tbl.new
  simp only [C17.append_raw, leN_zero, sum8_zeros, List.flatten_nil, sum8_nil, and_true]
  simp [Cks.raw]

theorem CksInv_step (t : Tbl) (raw : Bytes) (cl : Nat) (hi : CksInv t) :
    CksInv (t.step raw cl (sum8 raw)) := by
  obtain ⟨h1, _⟩ := hi
  refine ⟨?_, rfl⟩
  unfold Tbl.step
  simp only [List.flatten_append, sum8_append, List.flatten_cons, List.flatten_nil,
    List.append_nil]
  rw [sum8_hdrBytes_len t.cfg.sig t.length]
  by_cases hc : t.cfg.cw = 0
  · rw [if_pos hc, C17.add_raw, C17.append_raw, C17.delete_raw, h1]
    simp only [hc, leN, sum8_nil]
    grind
  · rw [if_neg hc]
    rw [C17.append_raw, C17.delete_raw, C17.add_raw, C17.append_raw, C17.delete_raw, h1]
    grind

structure Ran (t : Tbl) (es : List (Bytes × Nat)) (hs : List Nat) (t' : Tbl) : Prop where
  cfg : t'.cfg = t.cfg
  oem : t'.oem = t.oem
  body : t'.body = t.body ++ es.map (·.1)
  count : t'.count = t.count + es.length
  length : t'.length = t.length + UInt32.ofNat (es.map (·.2)).sum
  handleOffset : t'.handleOffset = t.handleOffset + (es.map (·.2)).sum
  handles : hs = offsetsFrom t.handleOffset (es.map (·.2))
  cks : CksInv t → CksInv t'
  /-- a checked offset field (VIOT) is never exceeded -/
  bound : ∀ m, t.cfg.maxOffset = some m → t.handleOffset ≤ m → t'.handleOffset ≤ m

theorem Ran.of_run : ∀ {es : List (Bytes × Nat)} {t : Tbl} {hs : List Nat} {t' : Tbl},
    runAdds t es = some (hs, t') → Ran t es hs t'
  | [], t, hs, t', h => by
    cases h
    exact { cfg := rfl, oem := rfl, body := by simp, count := rfl, length := by simp,
            handleOffset := rfl, handles := rfl, cks := id, bound := fun _ _ h => h }
  | e :: es, t, hs, t', h => by
    obtain ⟨h0, t1, hs', hadd, h', rfl⟩ := runAdds_cons.mp h
    obtain ⟨hb, e0⟩ := Tbl.add_eq_some hadd
    cases e0
    have r := Ran.of_run h'
    exact {
      cfg := r.cfg
      oem := r.oem
      body := by simp [r.body, Tbl.step]
      count := by simp only [r.count, Tbl.step, List.length_cons]; omega
      length := by
        simp only [r.length, Tbl.step, List.map_cons, List.sum_cons, UInt32.ofNat_add,
          UInt32.add_assoc]
      handleOffset := by simp only [r.handleOffset, Tbl.step, List.map_cons, List.sum_cons]; omega
      handles := by simp only [r.handles, Tbl.step, List.map_cons, offsetsFrom]
      cks := fun hi => r.cks (CksInv_step t e.1 e.2 hi)
      bound := fun m hm _ => r.bound m hm (hb m hm) }

theorem Ran.length_handles {t : Tbl} {es : List (Bytes × Nat)} {hs : List Nat} {t' : Tbl}
    (r : Ran t es hs t') : hs.length = es.length := by
  rw [r.handles, length_offsetsFrom, List.length_map]

theorem Ran.handle_le {t : Tbl} {es : List (Bytes × Nat)} {hs : List Nat} {t' : Tbl}
    (r : Ran t es hs t') {x : Nat} (hx : x ∈ hs) : x ≤ t'.handleOffset := by
  rw [r.handleOffset]
  exact le_of_mem_offsetsFrom (r.handles ▸ hx)

theorem CksInv_sum (t : Tbl) (hi : CksInv t) : sum8 t.image = 0 := by
  obtain ⟨h1, h2⟩ := hi
  unfold Tbl.image
  rw [h2]
  simp only [List.append_assoc]
  exact sum8_with_cksum _ _ _ _ _ _ (by simp only [sum8_append, h1, UInt8.add_assoc])

theorem Tbl.image_eq (t : Tbl) : t.image = t.head ++ t.body.flatten := rfl

theorem Tbl.length_head (t : Tbl) (hsig : t.cfg.sig.length = 4) (hid : t.oem.id.length = 6)
    (htb : t.oem.table.length = 8) : t.head.length = Tbl.firstOffset t.cfg := by
  unfold Tbl.head Tbl.firstOffset
  simp only [List.length_append, length_leN, length_hdrBytes _ _ _ _ _ hsig hid htb]

@[simp] theorem Tbl.new_cfg (c : TblCfg) (o : Oem) : (Tbl.new c o).cfg = c := rfl
@[simp] theorem Tbl.new_oem (c : TblCfg) (o : Oem) : (Tbl.new c o).oem = o := rfl
@[simp] theorem Tbl.new_body (c : TblCfg) (o : Oem) : (Tbl.new c o).body = [] := rfl
@[simp] theorem Tbl.new_count (c : TblCfg) (o : Oem) : (Tbl.new c o).count = 0 := rfl
@[simp] theorem Tbl.new_length (c : TblCfg) (o : Oem) :
    (Tbl.new c o).length = UInt32.ofNat (Tbl.firstOffset c) := rfl
@[simp] theorem Tbl.new_handleOffset (c : TblCfg) (o : Oem) :
    (Tbl.new c o).handleOffset = Tbl.firstOffset c := rfl

theorem image_eq_of_run {c : TblCfg} {o : Oem} {es : List (Bytes × Nat)} {hs : List Nat} {t : Tbl}
    (h : runAdds (Tbl.new c o) es = some (hs, t)) : t.image = t.head ++ (es.map (·.1)).flatten := by
  rw [Tbl.image_eq, (Ran.of_run h).body]; rfl

theorem image_of_run {c : TblCfg} {o : Oem} (hsig : c.sig.length = 4) (hid : o.id.length = 6)
    (htb : o.table.length = 8) {es : List (Bytes × Nat)} {hs : List Nat} {t : Tbl}
    (h : runAdds (Tbl.new c o) es = some (hs, t)) :
    t.image = t.head ++ (es.map (·.1)).flatten ∧ t.head.length = Tbl.firstOffset c := by
  have r := Ran.of_run h
  have hc : t.cfg = c := r.cfg
  have ho : t.oem = o := r.oem
  subst hc ho
  exact ⟨image_eq_of_run h, Tbl.length_head t hsig hid htb⟩

theorem image_length_of_run {c : TblCfg} {o : Oem} (hsig : c.sig.length = 4)
    (hid : o.id.length = 6) (htb : o.table.length = 8) {es : List (Bytes × Nat)}
    (hcl : ∀ e ∈ es, e.2 = e.1.length) {hs : List Nat} {t : Tbl}
    (h : runAdds (Tbl.new c o) es = some (hs, t)) :
    t.image.length = Tbl.firstOffset c + (es.map (·.2)).sum := by
  obtain ⟨himg, hhead⟩ := image_of_run hsig hid htb h
  rw [himg, List.length_append, hhead, length_flatten_map_fst es hcl]

theorem readAt_length (t : Tbl) (hsig : t.cfg.sig.length = 4) :
    readAt t.image 4 4 = some t.length.toNat := by
  unfold Tbl.image
  simp only [List.append_assoc]
  exact readAt_hdr_length _ _ _ _ _ _ hsig

theorem readAt_count (t : Tbl) (hsig : t.cfg.sig.length = 4) (hid : t.oem.id.length = 6)
    (htb : t.oem.table.length = 8) :
    readAt t.image (36 + t.cfg.pre.length) t.cfg.cw = some (t.count % 256 ^ t.cfg.cw) := by
  unfold Tbl.image
  rw [List.append_assoc (hdrBytes _ _ _ _ _ ++ t.cfg.pre ++ _)]
  rw [readAt_mid_leN _ _ _ _ _ (by rw [List.length_append, length_hdrBytes _ _ _ _ _ hsig hid htb])]

theorem readAt_post (t : Tbl) (hsig : t.cfg.sig.length = 4) (hid : t.oem.id.length = 6)
    (htb : t.oem.table.length = 8) (w v : Nat) (hp : t.cfg.post.take w = leN w v) :
    readAt t.image (36 + t.cfg.pre.length + t.cfg.cw) w = some (v % 256 ^ w) := by
  unfold Tbl.image
  have himg : hdrBytes t.cfg.sig t.length t.cfg.rev t.hdrCks t.oem ++ t.cfg.pre ++
        leN t.cfg.cw t.count ++ t.cfg.post ++ t.body.flatten =
      (hdrBytes t.cfg.sig t.length t.cfg.rev t.hdrCks t.oem ++ t.cfg.pre ++
        leN t.cfg.cw t.count) ++ leN w v ++ (t.cfg.post.drop w ++ t.body.flatten) := by
    rw [← hp]
    simp only [List.append_assoc, List.append_cancel_left_eq]
    rw [← List.append_assoc, List.take_append_drop]
  rw [himg, readAt_mid_leN _ _ _ _ _ (by
    rw [List.length_append, List.length_append, length_hdrBytes _ _ _ _ _ hsig hid htb, length_leN])]

end Acpi
