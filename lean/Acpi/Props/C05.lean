/-
  C05 — handles returned by add operations are true offsets of the node they name
  (engine part: PPTT, RHCT, RIMT, VIOT all hand out the engine's `handle_offset`).
-/
import Acpi.Tbl
import Acpi.Lemmas.Tbl
import Acpi.Props.C02
namespace Acpi.C05

/-- **C05 (engine), the value of a handle**: one handle is returned per add, and with truthful
    claimed lengths the i-th handle is the first-entry offset plus the sizes of the entries before
    it. -/
theorem handle_value (c : TblCfg) (o : Oem) (es : List (Bytes × Nat))
    (hcl : ∀ e ∈ es, e.2 = e.1.length) (hs : List Nat) (t : Tbl)
    (h : runAdds (Tbl.new c o) es = some (hs, t)) :
    hs.length = es.length ∧
    ∀ i (_hi : i < es.length), hs[i]? = some (Tbl.firstOffset c + (((es.take i).map (·.1.length)).sum)) := by
  refine ⟨(Ran.of_run h).length_handles, fun i hi => ?_⟩
  rw [(Ran.of_run h).handles]
  rw [getElem?_offsetsFrom _ _ i (by simpa using hi), ← List.map_take,
    List.map_congr_left fun e he => hcl e (List.mem_of_mem_take he)]
  rfl

/-- **C05 (engine), a handle is an offset**: with truthful claimed lengths, the i-th handle is
    where the i-th entry's bytes begin in the emitted image — the final one, and (since a prefix of
    a history is a history and later adds only append, `later_adds_only_append`) every intermediate
    one. -/
theorem handle_is_offset (c : TblCfg) (o : Oem) (hw : C02.CfgWf c o) (es : List (Bytes × Nat))
    (hcl : ∀ e ∈ es, e.2 = e.1.length) (hs : List Nat) (t : Tbl)
    (h : runAdds (Tbl.new c o) es = some (hs, t)) :
    ∀ i (hi : i < es.length), ∃ hnd, hs[i]? = some hnd ∧
      (t.image.drop hnd).take (es[i].1.length) = es[i].1 := by
  intro i hi
  obtain ⟨himg, hhead⟩ := image_of_run hw.1 hw.2.1 hw.2.2 h
  refine ⟨_, (handle_value c o es hcl hs t h).2 i hi, ?_⟩
  have key := flatten_drop_take (es.map (·.1)) i (by simpa using hi)
  simp only [List.getElem_map, ← List.map_take, List.map_map] at key
  rw [himg, ← hhead, ← List.drop_drop, List.drop_left' rfl]
  exact key

/-- later adds never move an earlier node: the image of a longer history extends the image
    body of the shorter one (same bytes at the same offsets from the first entry on). -/
theorem later_adds_only_append (c : TblCfg) (o : Oem) (hw : C02.CfgWf c o)
    (es es' : List (Bytes × Nat))
    (hs hs' : List Nat) (t t' : Tbl)
    (h : runAdds (Tbl.new c o) es = some (hs, t))
    (h' : runAdds (Tbl.new c o) (es ++ es') = some (hs', t')) :
    t'.image.drop (Tbl.firstOffset c) = t.image.drop (Tbl.firstOffset c) ++ (es'.map Prod.fst).flatten ∧
    hs'.take hs.length = hs := by
  obtain ⟨himg, hhead⟩ := image_of_run hw.1 hw.2.1 hw.2.2 h
  obtain ⟨himg', hhead'⟩ := image_of_run hw.1 hw.2.1 hw.2.2 h'
  constructor
  · rw [himg, himg', List.drop_left' hhead, List.drop_left' hhead', List.map_append,
      List.flatten_append]
  · rw [(Ran.of_run h).handles, (Ran.of_run h').handles, List.map_append, offsetsFrom_append,
      length_offsetsFrom, List.take_left' (by simp)]

end Acpi.C05
