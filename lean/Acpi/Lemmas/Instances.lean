/-
  Instances of the general lemmas of Acpi.Lemmas.Basic, Layout, Builder and CellArrays under
  the names of the entry families; nothing in the development uses them.
-/
import Acpi.Lemmas.Builder
import Acpi.Lemmas.CellArrays

namespace Acpi.C04.Madt
open Acpi Spec

theorem lastVal_nil (n : String) (i d : Nat) : lastVal [] n i d = d := rfl
theorem lastSet_nil (idx d : Nat) : lastSet [] idx d = d := rfl

end Acpi.C04.Madt

namespace Acpi.CHM
open Acpi Spec

theorem num_setNum (a : EArgs) (i v j : Nat) :
    (a.setNum i v).num j = if i = j ∧ i < a.n.size then v else a.num j := Builder.num_setNum a i v j

@[scoped simp] theorem size_setNum (a : EArgs) (i v : Nat) : (a.setNum i v).n.size = a.n.size :=
  Builder.size_setNum a i v

theorem optWf_set (k : Kind) (o : Opt) (h : optWf k o = true) (hn : o.name = "set") :
    o.arg 0 ∈ settableSlots k := Builder.optWf_set h hn

theorem lastSet_unsettable (k : Kind) (opts : List Opt) (hwf : opts.all (optWf k) = true) (j d : Nat)
    (hj : j ∉ settableSlots k) : lastSet opts j d = d := Builder.lastSet_unsettable k opts hwf j d hj

@[scoped simp] theorem b_setNum (a : EArgs) (i v : Nat) : (a.setNum i v).b = a.b := rfl
@[scoped simp] theorem s_setNum (a : EArgs) (i v : Nat) : (a.setNum i v).s = a.s := rfl
@[scoped simp] theorem b_orNum (a : EArgs) (i v : Nat) : (a.orNum i v).b = a.b := rfl
@[scoped simp] theorem s_orNum (a : EArgs) (i v : Nat) : (a.orNum i v).s = a.s := rfl
@[scoped simp] theorem has_nil (n : String) : has [] n = false := rfl
@[scoped simp] theorem lastSet_nil (j d : Nat) : lastSet [] j d = d := rfl
@[scoped simp] theorem lastVal_nil (n : String) (i d : Nat) : lastVal [] n i d = d := rfl
@[scoped simp] theorem pushed_nil (n : String) : pushed [] n = [] := rfl
@[scoped simp] theorem render_nil : render [] = [] := rfl

end Acpi.CHM

namespace Acpi.SHP
open Acpi Spec

theorem lastD_nil (p : Opt → Bool) (f : Opt → Nat) (d : Nat) : lastD p f [] d = d := rfl
theorem leN2_mod (v : Nat) : leN 2 (v % 65536) = leN 2 v := leN_mod 2 v
theorem leN4_mod (v : Nat) : leN 4 (v % 4294967296) = leN 4 v := leN_mod 4 v
theorem bit_nil (n : String) (b : Nat) : bit [] n b = 0 := rfl
theorem blob_mk (n : Array Nat) (b : Array Bytes) (s : List (List Nat)) (i : Nat) :
    (EArgs.mk n b s).blob i = b[i]?.getD [] := Acpi.blob_mk n b s i
@[simp] theorem setNum_b (a : EArgs) (i v : Nat) : (a.setNum i v).b = a.b := rfl
@[simp] theorem setNum_s (a : EArgs) (i v : Nat) : (a.setNum i v).s = a.s := rfl
@[simp] theorem orNum_b (a : EArgs) (i v : Nat) : (a.orNum i v).b = a.b := rfl
@[simp] theorem orNum_s (a : EArgs) (i v : Nat) : (a.orNum i v).s = a.s := rfl

end Acpi.SHP

namespace Acpi.C04
open Acpi Spec

theorem zeros1 : zeros 1 = [0] := rfl
theorem zeros2 : zeros 2 = [0, 0] := rfl
theorem zeros4 : zeros 4 = [0, 0, 0, 0] := rfl
theorem zeros6 : zeros 6 = [0, 0, 0, 0, 0, 0] := rfl
theorem zeros8 : zeros 8 = [0, 0, 0, 0, 0, 0, 0, 0] := rfl
theorem leN1_zero : leN 1 0 = [0] := rfl
theorem leN2_zero : leN 2 0 = [0, 0] := rfl
theorem leN4_zero : leN 4 0 = [0, 0, 0, 0] := rfl
theorem leN8_zero : leN 8 0 = [0, 0, 0, 0, 0, 0, 0, 0] := rfl
theorem arrayRows_nil (base stride w : Nat) : arrayRows base stride w [] = [] := rfl

end Acpi.C04
