/-
  A constructor of the crate that is an operator of the grammar is a row of one table: opcode
  bytes and grammar code, an optional refusal, an optional leading path, ByteData / WordData
  operands, its children (each in a grammar position and in an order of emission, or all of them
  as a body) and the kind of PkgLength-delimited body.  `OpRow.enc`, `OpRow.Ok` and `OpRow.tm` are the
  encoder, the well-formedness and the meaning of a row; that the model's `enc`, `wf`, `meaning`
  and `shape` at a node are those of a row is a lookup (`Agrees`), and a row round-trips if its
  children do (`Agrees.rt`).
-/
import Acpi.Lemmas.AmlLists
namespace Acpi.Lemmas.AmlParse
open Spec.Aml

/-- what `wf` asks of a child that fills position `s` -/
def okAt : Slot → Aml → Bool
  | .T => okTerm | .S => okSuperName | .G => okTarget | .N => okNameString
  | _ => fun _ => false

/-- what a child that fills position `s` denotes -/
def denote : Slot → Aml → Tm
  | .G | .S => tgt
  | _ => meaning

theorem SlotsFact.kid {env : Env} {s : Slot} {ss : List Slot} {a : Aml} {e e' : Bytes} {is : List Nat}
    {ks : TmList} (i : RT env a) (hw : wf env a = true) (hk : okAt s a = true) (he : a.enc = some e)
    (h : SlotsFact env ss e' is ks) : SlotsFact env (s :: ss) (e ++ e') is (.cons (denote s a) ks) := by
  cases s
  case N => exact .N (NFact.of_nameString (env := env) hw hk he) h
  case T => exact .T (i.tfact hw hk he) h
  case S =>
    rw [show denote .S a = meaning a from (okSuperName_spec a hk).2]
    exact .SG (SGFact.of_superName (Or.inl rfl) i hw hk he) h
  case G => exact .SG (SGFact.of_target i hw hk he) h
  all_goals exact absurd hk (by simp [okAt])

def kidAt (kids : AmlList) (j : Nat) : Aml := kids.toList.getD j (.node .zero [] [] .nil)

/-- the `j`-th entry of the list `meaning` reads for position `s` -/
def denoteAt (s : Slot) (kids : AmlList) (j : Nat) : Tm :=
  (match s with
   | .G | .S => targets kids
   | .N => names kids
   | _ => meanings kids).getD j (intTm 0)

theorem denoteAt_zero (s : Slot) (a : Aml) (r : AmlList) : denoteAt s (.cons a r) 0 = denote s a := by
  cases s <;> simp only [denoteAt, denote, targets_cons, meanings, names, List.getD_cons_zero]

theorem denoteAt_succ (s : Slot) (a : Aml) (r : AmlList) (j : Nat) :
    denoteAt s (.cons a r) (j + 1) = denoteAt s r j := by
  cases s <;> simp only [denoteAt, targets_cons, meanings, names, List.getD_cons_succ]

/-- everything the tree functions say at an index whose encoding exists -/
theorem kid_at {env : Env} : ∀ {kids : AmlList} {j : Nat} {e : Bytes},
    (AmlList.encs kids).getD j none = some e →
    (kidAt kids j).enc = some e ∧ (RTs env kids → RT env (kidAt kids j)) ∧
      (wfs env kids = true → wf env (kidAt kids j) = true) ∧
      ∀ s, denoteAt s kids j = denote s (kidAt kids j)
  | .nil, _, _, h => by simp [AmlList.encs] at h
  | .cons a r, 0, _, h =>
    ⟨by simpa [AmlList.encs, kidAt, AmlList.toList] using h, fun i => i.1,
      fun w => by simp only [wfs, Bool.and_eq_true] at w; exact w.1, fun s => denoteAt_zero s a r⟩
  | .cons a r, j + 1, e, h => by
    obtain ⟨h1, h2, h3, h4⟩ := kid_at (env := env) (kids := r) (j := j) (e := e)
      (by simpa [AmlList.encs] using h)
    show (kidAt r j).enc = some e ∧ (_ → RT env (kidAt r j)) ∧ (_ → wf env (kidAt r j) = true) ∧
      ∀ s, denoteAt s (.cons a r) (j + 1) = denote s (kidAt r j)
    refine ⟨h1, fun i => h2 i.2, fun w => ?_, fun s => (denoteAt_succ s a r j).trans (h4 s)⟩
    simp only [wfs, Bool.and_eq_true] at w; exact h3 w.2

/-- bind the encodings of children `j, j+1, …, j+n-1`, in the order `enc` binds them -/
def bindKids (ks : List (Option Bytes)) : Nat → Nat → (List Bytes → Option Bytes) → Option Bytes
  | 0, _, f => f []
  | n + 1, j, f => (ks.getD j none).bind fun e => bindKids ks n (j + 1) fun es => f (e :: es)

/-- whether `pathEnc (blobs 0)` leads, and in which grammar position -/
inductive PathArg where
  | no | name | super
deriving DecidableEq

/-- a ByteData / WordData operand: the value the encoder writes (truncating) and the value
    `meaning` reads -/
structure Scalar where
  wide : Bool
  emit : Nat
  mean : Nat

def Scalar.bytes (s : Scalar) : Bytes := if s.wide then leN 2 s.emit else [UInt8.ofNat s.emit]
def Scalar.slot (s : Scalar) : Slot := if s.wide then .W else .B
def Scalar.parsed (s : Scalar) : Nat := if s.wide then fromLE (leN 2 s.emit) else (UInt8.ofNat s.emit).toNat

inductive Kids where
  /-- children in grammar positions (of child 0, 1, …), emitted in `order`; `frame = some b`: the
      object is PkgLength-delimited and ends in an empty body of kind `b` -/
  | fixed (pos : List Slot) (order : List Nat) (frame : Option Body)
  /-- every child, in order, in a PkgLength-delimited object: all of them the body, or (`lead`) the
      first a TermArg operand and the others the body -/
  | all (lead : Bool) (b : Body)

structure OpRow where
  refuses : Prop := False    -- the condition under which the encoder returns `none` outright
  -- a `{ r with refuses := … }` copies `r.dec`, which decides the old condition: give `dec` with it
  dec : Decidable refuses := by infer_instance
  opc : Bytes
  code : Nat
  path : PathArg := .no
  scalars : List Scalar := []
  kids : Kids

attribute [instance] OpRow.dec

namespace OpRow

def op (c : UInt8) (kids : Kids) : OpRow := { opc := [c], code := c.toNat, kids }

def ext (c : UInt8) (kids : Kids) : OpRow := { opc := [0x5B, c], code := 0x5B00 + c.toNat, kids }

def body (r : OpRow) : Option Body :=
  match r.kids with
  | .fixed _ _ f => f
  | .all _ b => some b

def pathSlots : PathArg → List Slot
  | .no => [] | .name => [.N] | .super => [.S]

def kidSlots (r : OpRow) : List Slot :=
  match r.kids with
  | .fixed pos order _ => order.map fun j => pos.getD j .T
  | .all lead _ => if lead then [.T] else []

def slots (r : OpRow) : List Slot := pathSlots r.path ++ (r.scalars.map Scalar.slot ++ r.kidSlots)

/-- `foldl`, so that the left-nested `opc ++ a ++ b` that `Aml.enc` writes is this by computation -/
def finish (r : OpRow) (pieces : List Bytes) : Option Bytes :=
  match r.body with
  | none => some (pieces.foldl (· ++ ·) r.opc)
  | some _ => pkgObj r.opc (pieces.foldl (· ++ ·) [])

def encKids (r : OpRow) (kids : AmlList) (pre : List Bytes) : Option Bytes :=
  match r.kids with
  | .fixed pos order _ =>
    bindKids (AmlList.encs kids) pos.length 0 fun es => r.finish (pre ++ order.map fun j => es.getD j [])
  | .all _ _ => (catOpt (AmlList.encs kids)).bind fun d => r.finish (pre ++ [d])

/-- the encoder of a row, with the binds in the order in which `Aml.enc` writes them -/
def enc (r : OpRow) (blobs : List Bytes) (kids : AmlList) : Option Bytes :=
  if r.refuses then none else
  match r.path with
  | .no => r.encKids kids (r.scalars.map Scalar.bytes)
  | _ => (pathEnc (blobs.getD 0 [])).bind fun p => r.encKids kids (p :: r.scalars.map Scalar.bytes)

/-- the condition `wf` puts on children that form a body -/
def bodyOk : Body → AmlList → Bool
  | .terms, kids => kids.toList.all okTerm
  | .elems, kids => kids.toList.all okTerm && kids.toList.all elemOk
  | .fields, kids => kids.toList.all fieldOk
  | .bytes, _ => false

/-- what `wf` says of a node that is this row -/
structure Ok (env : Env) (r : OpRow) (blobs : List Bytes) (kids : AmlList) : Prop where
  kidsWf : wfs env kids = true
  path : r.path ≠ .no → pathOk (blobs.getD 0 []) = true
  scalars : ∀ s ∈ r.scalars, s.parsed = s.mean
  args : match r.kids with
    | .fixed pos order _ => ∀ j ∈ order, j < pos.length ∧ okAt (pos.getD j .T) (kidAt kids j) = true
    | .all false b => bodyOk b kids = true
    | .all true b => ∃ a rest, kids = .cons a rest ∧ okTerm a = true ∧ bodyOk b rest = true

def kidTms (r : OpRow) (kids : AmlList) : List Tm :=
  match r.kids with
  | .fixed pos order _ => order.map fun j => denoteAt (pos.getD j .T) kids j
  | .all _ .elems => elems kids
  | .all _ _ => meanings kids

/-- the term a node that is this row denotes -/
def tm (r : OpRow) (blobs : List Bytes) (kids : AmlList) : Tm :=
  .node (.op r.code) (r.scalars.map Scalar.mean) (match r.body with | some .bytes => [[]] | _ => [])
    (TmList.ofList ((match r.path with | .no => [] | _ => [nameOf (blobs.getD 0 [])]) ++ r.kidTms kids))

end OpRow

/-- the model's tables at the node `t` (with these blobs and children) are those of row `r` -/
structure Agrees (env : Env) (t : Aml) (blobs : List Bytes) (kids : AmlList) (r : OpRow) : Prop where
  opc : OpCode r.opc r.code
  shape : shape r.code = some ⟨r.slots, r.body⟩
  enc : t.enc = r.enc blobs kids
  wf : wf env t = true → r.Ok env blobs kids
  meaning : meaning t = r.tm blobs kids
  len : r.slots.length ≤ 6 := by exact Nat.le_of_ble_eq_true rfl   -- what the opcode byte's eight pay for (see `TFact`)

/-- each child is of the class its position admits: the conjunction `wf` writes, in its order and
    nesting (the accumulator starts at `true`, which `&&` absorbs by computation) -/
def okFrom (kids : AmlList) : List Slot → Nat → Bool → Bool
  | [], _, acc => acc
  | s :: ss, j, acc => okFrom kids ss (j + 1) (acc && okAt s (kidAt kids j))

theorem okFrom_true {kids : AmlList} : ∀ {ss : List Slot} {j : Nat} {acc : Bool}, okFrom kids ss j acc = true →
    acc = true ∧ ∀ i, i < ss.length → okAt (ss.getD i .T) (kidAt kids (j + i)) = true
  | [], _, _, h => ⟨h, fun _ hi => absurd hi (Nat.not_lt_zero _)⟩
  | s :: ss, j, acc, h => by
    obtain ⟨h1, h2⟩ := okFrom_true (ss := ss) h
    rw [Bool.and_eq_true] at h1
    refine ⟨h1.1, fun i hi => ?_⟩
    cases i with
    | zero => exact h1.2
    | succ i =>
      rw [List.getD_cons_succ, show j + (i + 1) = j + 1 + i by omega]
      exact h2 i (by simpa using hi)

/-- for a row that is children only, `wf` is `okFrom` of the positions -/
theorem OpRow.Ok.of_okFrom {env : Env} {t : Aml} {blobs : List Bytes} {kids : AmlList} {r : OpRow} {pos : List Slot}
    {order : List Nat} {frame : Option Body} (hk : r.kids = .fixed pos order frame) (hp : r.path = .no)
    (hs : r.scalars = []) (e : wf env t = (Spec.Aml.wfs env kids && okFrom kids pos 0 true))
    (hord : ∀ j ∈ order, j < pos.length) (h : wf env t = true) : r.Ok env blobs kids := by
  rw [e, Bool.and_eq_true] at h
  refine ⟨h.1, fun hn => absurd hp hn, by rw [hs]; exact List.forall_mem_nil _, ?_⟩
  rw [hk]
  intro j hj
  have := (okFrom_true h.2).2 j (hord j hj)
  rw [Nat.zero_add] at this
  exact ⟨hord j hj, this⟩

theorem bindKids_some {ks : List (Option Bytes)} : ∀ {n j : Nat} {f : List Bytes → Option Bytes} {bs : Bytes},
    bindKids ks n j f = some bs →
    ∃ es, (∀ i, i < n → ks.getD (j + i) none = some (es.getD i [])) ∧ f es = some bs
  | 0, _, _, _, h => ⟨[], fun _ hi => absurd hi (Nat.not_lt_zero _), h⟩
  | n + 1, j, f, bs, h => by
    rw [bindKids, Option.bind_eq_some_iff] at h
    obtain ⟨e, he, h⟩ := h
    obtain ⟨es, hes, hf⟩ := bindKids_some h
    refine ⟨e :: es, fun i hi => ?_, hf⟩
    cases i with
    | zero => exact he
    | succ i => rw [List.getD_cons_succ, ← hes i (by omega)]; congr 1; omega

theorem slots_of_kids {env : Env} {kids : AmlList} (ih : RTs env kids) (hws : wfs env kids = true)
    (es : List Bytes) (slot : Nat → Slot) : ∀ (order : List Nat),
      (∀ j ∈ order, (AmlList.encs kids).getD j none = some (es.getD j []) ∧ okAt (slot j) (kidAt kids j) = true) →
      SlotsFact env (order.map slot) (order.map fun j => es.getD j []).flatten []
        (TmList.ofList (order.map fun j => denoteAt (slot j) kids j))
  | [], _ => .nil
  | j :: order, h => by
    obtain ⟨he, hk⟩ := h j List.mem_cons_self
    obtain ⟨hea, hi, hw, hd⟩ := kid_at (env := env) he
    rw [List.map_cons, List.map_cons, List.map_cons, List.flatten_cons, TmList.ofList, hd]
    exact .kid (hi ih) (hw hws) hk hea (slots_of_kids ih hws es slot order fun a ha => h a (List.mem_cons_of_mem _ ha))

/-- what acceptance by the encoder of a row gives: no refusal, the path, the children's bytes, and
    the bytes as opcode (and PkgLength) in front of the pieces -/
theorem OpRow.enc_some {r : OpRow} {blobs : List Bytes} {kids : AmlList} {bs : Bytes}
    (h : r.enc blobs kids = some bs) :
    ¬ r.refuses ∧ ∃ pre ks,
      (match r.path with
       | .no => pre = []
       | _ => ∃ p, pathEnc (blobs.getD 0 []) = some p ∧ pre = [p]) ∧
      (match r.kids with
       | .fixed pos order _ => ∃ es : List Bytes,
          (∀ j, j < pos.length → (AmlList.encs kids).getD j none = some (es.getD j [])) ∧
          ks = order.map fun j => es.getD j []
       | .all _ _ => ∃ d, catOpt (AmlList.encs kids) = some d ∧ ks = [d]) ∧
      (match r.body with
       | none => bs = r.opc ++ (pre ++ r.scalars.map Scalar.bytes ++ ks).flatten
       | some _ => ¬ pkgLenPanics (pre ++ r.scalars.map Scalar.bytes ++ ks).flatten.length true = true ∧
          bs = r.opc ++ (pkgLen (pre ++ r.scalars.map Scalar.bytes ++ ks).flatten.length true ++
            (pre ++ r.scalars.map Scalar.bytes ++ ks).flatten)) := by
  have fin {pieces : List Bytes} (h : r.finish pieces = some bs) :
      match r.body with
      | none => bs = r.opc ++ pieces.flatten
      | some _ => ¬ pkgLenPanics pieces.flatten.length true = true ∧
          bs = r.opc ++ (pkgLen pieces.flatten.length true ++ pieces.flatten) := by
    unfold OpRow.finish at h
    split at h <;> rw [List.foldl_append_eq_append, List.map_id'] at h
    · exact (Option.some.inj h).symm
    · rw [List.nil_append] at h; exact pkgObj_some h
  have kids' {pre : List Bytes} (h : r.encKids kids pre = some bs) :
      ∃ ks, r.finish (pre ++ ks) = some bs ∧
        match r.kids with
        | .fixed pos order _ => ∃ es : List Bytes,
            (∀ j, j < pos.length → (AmlList.encs kids).getD j none = some (es.getD j [])) ∧
            ks = order.map fun j => es.getD j []
        | .all _ _ => ∃ d, catOpt (AmlList.encs kids) = some d ∧ ks = [d] := by
    unfold OpRow.encKids at h
    split at h
    · obtain ⟨es, hes, hf⟩ := bindKids_some h
      exact ⟨_, hf, es, fun j hj => by simpa using hes j hj, rfl⟩
    · obtain ⟨d, hd, hf⟩ := Option.bind_eq_some_iff.mp h
      exact ⟨_, hf, d, hd, rfl⟩
  unfold OpRow.enc at h
  split at h
  · cases h
  · rename_i hg
    refine ⟨hg, ?_⟩
    split at h
    · obtain ⟨ks, hf, hks⟩ := kids' h
      exact ⟨[], ks, rfl, hks, fin hf⟩
    · obtain ⟨p, hp, h⟩ := Option.bind_eq_some_iff.mp h
      obtain ⟨ks, hf, hks⟩ := kids' h
      exact ⟨[p], ks, ⟨p, hp, rfl⟩, hks, fin hf⟩

theorem SlotsFact.scalars {env : Env} {ss : List Slot} {e : Bytes} {is : List Nat} {ks : TmList}
    (h : SlotsFact env ss e is ks) : ∀ sc : List Scalar,
    SlotsFact env (sc.map Scalar.slot ++ ss) ((sc.map Scalar.bytes).flatten ++ e) (sc.map Scalar.parsed ++ is) ks
  | [] => h
  | s :: sc => by
    have ih := SlotsFact.scalars h sc
    simp only [List.map_cons, List.flatten_cons, List.cons_append, List.append_assoc, Scalar.slot, Scalar.bytes,
      Scalar.parsed]
    cases s.wide
    · exact .B _ ih
    · exact .W _ (length_leN _ _) ih

theorem SlotsFact.path {env : Env} {ss : List Slot} {e : Bytes} {is : List Nat} {ks : TmList} {s p : Bytes}
    (hp : pathEnc s = some p) (hok : pathOk s = true) (h : SlotsFact env ss e is ks) :
    ∀ a : PathArg, a ≠ .no → SlotsFact env (OpRow.pathSlots a ++ ss) (p ++ e) is (.cons (nameOf s) ks)
  | .no, ha => absurd rfl ha
  | .name, _ => .N (NFact.path hp hok) h
  | .super, _ => .SG (SGFact.name (Or.inl rfl) (NFact.path hp hok)) h

/-- path and scalars in front of the children's slots -/
theorem OpRow.slots_fact {env : Env} {r : OpRow} {blobs : List Bytes} {kids : AmlList} (O : r.Ok env blobs kids)
    {pre : List Bytes}
    (hpre : match r.path with
      | .no => pre = []
      | _ => ∃ p, pathEnc (blobs.getD 0 []) = some p ∧ pre = [p])
    {e : Bytes} {ks : List Tm} (h : SlotsFact env r.kidSlots e [] (TmList.ofList ks)) :
    SlotsFact env r.slots ((pre ++ r.scalars.map Scalar.bytes).flatten ++ e) (r.scalars.map Scalar.mean)
      (TmList.ofList ((match r.path with | .no => [] | _ => [nameOf (blobs.getD 0 [])]) ++ ks)) := by
  have S := h.scalars r.scalars
  rw [List.append_nil, List.map_congr_left O.scalars] at S
  unfold OpRow.slots
  cases hr : r.path <;> rw [hr] at hpre
  · subst hpre; exact S
  all_goals
    obtain ⟨p, hp, rfl⟩ := hpre
    rw [List.cons_append, List.nil_append, List.flatten_cons, List.append_assoc]
    exact S.path hp (O.path (by rw [hr]; decide)) _ (by decide)

/-- the children of an `all` row as a body of its kind -/
theorem body_fact {env : Env} {kids : AmlList} {d : Bytes} (ih : RTs env kids) (hws : wfs env kids = true)
    (hd : catOpt (AmlList.encs kids) = some d) : ∀ b : Body, OpRow.bodyOk b kids = true →
    BodyFact env b d [] (TmList.ofList (match b with | .elems => elems kids | _ => meanings kids))
  | .terms, hk => .terms (parseTermList_kids env kids d ih hws hk hd)
  | .elems, hk => by
    rw [OpRow.bodyOk, Bool.and_eq_true] at hk
    exact .elems (parseElems_kids env kids d ih hws hk.1 hk.2 hd)
  | .fields, hk => .fields (parseFields_kids kids d hk hd d.length (Nat.le_refl _))
  | .bytes, hk => by cases hk

/-- the blob list is written as `OpRow.tm` writes it (a match on `r.body = some b`), so that the two
    unify once `b` is a constructor -/
theorem BodyFact.empty (env : Env) : ∀ b : Body,
    BodyFact env b [] (match some b with | some .bytes => [[]] | _ => []) .nil
  | .terms => .terms fun f _ => parseTermList_nil env f
  | .elems => .elems fun f _ => parseElems_nil env f
  | .fields => .fields (parseFields_nil _)
  | .bytes => .bytes

/-- a node whose tables are those of a row round-trips if its children do -/
theorem Agrees.rt {env : Env} {t : Aml} {blobs : List Bytes} {kids : AmlList} {r : OpRow}
    (A : Agrees env t blobs kids r) (ih : RTs env kids) : RT env t := by
  intro bs rest fuel hwf _ henc hf
  have O := A.wf hwf
  rw [A.enc] at henc
  obtain ⟨_, pre, ks, hpre, hks, hfin⟩ := OpRow.enc_some henc
  -- what is needed of `A` and `O` is taken out before `r` is taken apart: afterwards their types
  -- mention the structure literal
  have hl := A.len
  have hsh := A.shape
  have hargs := O.args
  have S := @OpRow.slots_fact env r blobs kids O pre hpre
  rw [A.meaning, OpRow.tm]
  rcases r with ⟨g, dg, opc, code, path, sc, ⟨pos, order, frame⟩ | ⟨lead, b⟩⟩
  · obtain ⟨es, hes, rfl⟩ := hks
    have K := slots_of_kids ih O.kidsWf es (fun j => pos.getD j .T) order
      fun j hj => ⟨hes j (hargs j hj).1, (hargs j hj).2⟩
    have S := S K
    cases frame with
    | none =>
      subst hfin
      have T := TFact.plain A.opc hsh hl S
      rw [List.flatten_append] at hf ⊢
      exact T fuel rest hf
    | some b =>
      obtain ⟨hpl, rfl⟩ := hfin
      have T := TFact.framed A.opc hsh hl S (BodyFact.empty env b)
        (by rw [List.append_nil, List.flatten_append]) hpl
      rw [TmList.append_nil] at T
      exact T fuel rest hf
  · obtain ⟨d, hd, rfl⟩ := hks
    obtain ⟨hpl, rfl⟩ := hfin
    cases lead with
    | false =>
      have S := S (e := []) (ks := []) .nil
      have T := TFact.framed A.opc hsh hl S (body_fact ih O.kidsWf hd b hargs)
        (by simp only [List.flatten_append, List.flatten_cons, List.flatten_nil, List.append_nil]) hpl
      rw [TmList.ofList_append, List.append_nil] at T
      -- `cases b` only to reduce the `match` in `kidTms`; a `.bytes` body is excluded by `bodyOk`
      cases b
      case bytes => cases hargs
      all_goals exact T fuel rest hf
    | true =>
      obtain ⟨a, kids, rfl, hka, hkb⟩ := hargs
      obtain ⟨ea, dr, hea, hdr, rfl⟩ := catOpt_cons_some hd
      have hw := O.kidsWf
      rw [wfs, Bool.and_eq_true] at hw
      have S := S (ks := [Spec.Aml.meaning a]) (.T (ih.1.tfact hw.1 hka hea) .nil)
      have T := TFact.framed A.opc hsh hl S (body_fact ih.2 hw.2 hdr b hkb)
        (by simp only [List.flatten_append, List.flatten_cons, List.flatten_nil, List.append_nil,
          List.append_assoc]) hpl
      rw [TmList.ofList_append, List.append_assoc _ [Spec.Aml.meaning a]] at T
      cases b
      case bytes => cases hkb
      all_goals exact T fuel rest hf

end Acpi.Lemmas.AmlParse
