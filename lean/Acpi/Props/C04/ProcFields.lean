/-
  C04 / C11 for the PPTT processor hierarchy node with direct writes of its public fields
  (`node.flags = v; node.parent = p; node.acpi_processor_id = id`, modelled as `set=slot.value`
  on slots 0 / 1 / 2): what each of the three dwords holds after an arbitrary program.

    proc_flags_field   (Acpi.Props.C11.Distinct)  offset 4: `procFlags opts`
    proc_parent_field                              offset 8: last value written to slot 1, else the
                                                   constructor's parent reference
    proc_id_field                                  offset 12: last value written to slot 2, else the
                                                   constructor's ACPI processor id

  All three are consequences of `C04.conforms_proc` (via `C04.entry_conforms`).
-/
import Acpi.Lemmas.Inst
import Acpi.Lemmas.ProcFlags
namespace Acpi.C04
open Spec

/-- **PPTT processor node, parent field**: after any well-formed program that builds, the dword at
    offset 8 holds the value of the last direct write of the parent field, or the constructor
    argument if the program has none (truncated to 32 bits, as the Rust `u32` field is) -/
theorem proc_parent_field (c : EArgs) (opts : List Opt) (a : EArgs)
    (hwf : entryWf .proc c opts = true) (h : buildEntry .proc c opts = .ok a) :
    readAt (entryBytes .proc a) 8 4 = some (lastSet opts 1 (c.num 0) % 2 ^ 32) :=
  conforms.at (Inst.entry_rows (k := .proc) (by decide) hwf nofun h rfl) rfl

/-- **PPTT processor node, ACPI processor id field**: likewise at offset 12 for slot 2 -/
theorem proc_id_field (c : EArgs) (opts : List Opt) (a : EArgs)
    (hwf : entryWf .proc c opts = true) (h : buildEntry .proc c opts = .ok a) :
    readAt (entryBytes .proc a) 12 4 = some (lastSet opts 2 (c.num 1) % 2 ^ 32) :=
  conforms.at (Inst.entry_rows (k := .proc) (by decide) hwf nofun h rfl) rfl

/-- with constructor arguments that are `u32`s (as the Rust types make them) nothing is truncated:
    the two fields hold exactly the last written value / the constructor argument -/
theorem proc_parent_id_fields_exact (c : EArgs) (opts : List Opt) (a : EArgs)
    (hwf : entryWf .proc c opts = true) (h : buildEntry .proc c opts = .ok a)
    (h0 : c.num 0 < 2 ^ 32) (h1 : c.num 1 < 2 ^ 32) :
    readAt (entryBytes .proc a) 8 4 = some (lastSet opts 1 (c.num 0)) ∧
    readAt (entryBytes .proc a) 12 4 = some (lastSet opts 2 (c.num 1)) := by
  have hw := hwf
  rw [entryWf, Bool.and_eq_true] at hw
  rw [proc_parent_field c opts a hwf h, proc_id_field c opts a hwf h,
    Nat.mod_eq_of_lt (ProcF.proc_lastSet_lt opts hw.2 1 _ h0), Nat.mod_eq_of_lt (ProcF.proc_lastSet_lt opts hw.2 2 _ h1)]
  exact ⟨rfl, rfl⟩

/-- a program without direct writes (`set=` does not occur) leaves the constructor's values in both
    fields -/
theorem proc_parent_id_fields_no_writes (c : EArgs) (opts : List Opt) (a : EArgs)
    (hwf : entryWf .proc c opts = true) (h : buildEntry .proc c opts = .ok a)
    (hns : has opts "set" = false) :
    readAt (entryBytes .proc a) 8 4 = some (c.num 0 % 2 ^ 32) ∧
    readAt (entryBytes .proc a) 12 4 = some (c.num 1 % 2 ^ 32) := by
  rw [proc_parent_field c opts a hwf h, proc_id_field c opts a hwf h,
    ProcF.lastSet_of_not_has_set _ hns, ProcF.lastSet_of_not_has_set _ hns]
  exact ⟨rfl, rfl⟩

/-- non-vacuity: `physical(); flags = 6; leaf(); acpi_processor_id = 77; add_cache(40)` on a node
    constructed with parent 5 and id 3 is well-formed, builds, and its flags field reads 14 (the
    write discards `physical`, `leaf` is OR-ed in afterwards), its parent 5, its id 77 -/
example :
    let p : List Opt := [⟨"physical", []⟩, ⟨"set", [0, 6]⟩, ⟨"leaf", []⟩, ⟨"set", [2, 77]⟩, ⟨"cache", [40]⟩]
    entryWf .proc { n := #[5, 3] } p = true ∧
    ∃ a, buildEntry .proc { n := #[5, 3] } p = .ok a ∧
      readAt (entryBytes .proc a) 4 4 = some 14 ∧ procFlags p = 14 ∧
      readAt (entryBytes .proc a) 8 4 = some 5 ∧ lastSet p 1 5 = 5 ∧
      readAt (entryBytes .proc a) 12 4 = some 77 ∧ lastSet p 2 3 = 77 ∧
      layoutOracle .proc { n := #[5, 3] } p (entryBytes .proc a) = none :=
  ⟨by decide, _, rfl, by decide, by decide, by decide, by decide, by decide, by decide, by decide⟩

/-- the flags specification on a few more programs: a write after the builders discards them; of
    two writes only the last counts, with the builders after it; a write of another slot does not
    interrupt the accumulation; the model (left fold, `|=` and assignment) agrees on each -/
example :
    procFlags [⟨"leaf", []⟩, ⟨"set", [0, 6]⟩] = 6 ∧
    procFlags [⟨"set", [0, 1]⟩, ⟨"valid", []⟩, ⟨"set", [0, 8]⟩, ⟨"thread", []⟩] = 12 ∧
    procFlags [⟨"physical", []⟩, ⟨"set", [1, 9]⟩, ⟨"leaf", []⟩] = 9 ∧
    procFlags [⟨"set", [0, 3]⟩, ⟨"physical", []⟩, ⟨"valid", []⟩] = 3 ∧
    (∃ a, buildEntry .proc {} [⟨"leaf", []⟩, ⟨"set", [0, 6]⟩] = .ok a ∧ a.num 0 = 6) ∧
    (∃ a, buildEntry .proc {} [⟨"set", [0, 1]⟩, ⟨"valid", []⟩, ⟨"set", [0, 8]⟩, ⟨"thread", []⟩] = .ok a ∧
      a.num 0 = 12) ∧
    (∃ a, buildEntry .proc {} [⟨"physical", []⟩, ⟨"set", [1, 9]⟩, ⟨"leaf", []⟩] = .ok a ∧ a.num 0 = 9 ∧ a.num 1 = 9) :=
  ⟨by decide, by decide, by decide, by decide, ⟨_, rfl, by decide⟩, ⟨_, rfl, by decide⟩, ⟨_, rfl, by decide, by decide⟩⟩

end Acpi.C04
