/-
  C09 — name paths encode to the specification's NameString form and back.
-/
import Acpi.Aml.Path
import Acpi.Spec.NameString
namespace Acpi.C09
open Spec.NameString

theorem splitDot_ne_nil (s : Bytes) : splitDot s ≠ [] := by
  induction s with
  | nil => simp [splitDot]
  | cons b bs ih =>
    unfold splitDot
    split
    · simp
    · split <;> simp

/-- **C09** `splitDot` is `str::split('.')`, first half: the pieces, joined by dots, are the string
    (`splitDot_no_dot` is the other half: no piece could be split further). -/
theorem splitDot_join (s : Bytes) : [(0x2E : UInt8)].intercalate (splitDot s) = s := by
  induction s with
  | nil => simp [splitDot, List.intercalate]
  | cons b bs ih =>
    unfold splitDot
    split
    · next h =>
      subst h
      cases hs : splitDot bs with
      | nil => exact absurd hs (splitDot_ne_nil bs)
      | cons p ps => rw [hs] at ih; simpa [List.intercalate, List.intersperse] using ih
    · split
      · next h => exact absurd h (splitDot_ne_nil bs)
      · next p ps h =>
        rw [h] at ih
        cases ps <;> simpa [List.intercalate, List.intersperse] using ih

/-- **C09** `splitDot` is `str::split('.')`, second half: no piece contains a dot. -/
theorem splitDot_no_dot (s : Bytes) : ∀ p ∈ splitDot s, (0x2E : UInt8) ∉ p := by
  induction s with
  | nil => simp [splitDot]
  | cons b bs ih =>
    unfold splitDot
    split
    · exact List.forall_mem_cons.mpr ⟨List.not_mem_nil, ih⟩
    · next hb =>
      split
      · intro p hp
        cases List.mem_singleton.mp hp
        exact fun h => hb (List.mem_singleton.mp h).symm
      · next p ps h =>
        rw [h] at ih
        refine List.forall_mem_cons.mpr ⟨fun hm => ?_, fun q hq => ih q (List.mem_cons_of_mem _ hq)⟩
        rcases List.mem_cons.mp hm with e | e
        · exact hb e.symm
        · exact ih p List.mem_cons_self e

theorem new_eq_some_iff (s : Bytes) (p : Path) :
    Path.new s = some p ↔
      (∀ q ∈ splitDot (Path.body s), q.length = 4) ∧ p = ⟨Path.isRooted s, splitDot (Path.body s)⟩ := by
  have hall : ((splitDot (Path.body s)).all fun p => decide (p.length = 4)) = true ↔
      ∀ q ∈ splitDot (Path.body s), q.length = 4 := by
    simp only [List.all_eq_true, decide_eq_true_eq]
  unfold Path.new
  split
  · next h => exact ⟨fun e => ⟨hall.mp h, (Option.some.inj e).symm⟩, fun e => e.2 ▸ rfl⟩
  · next h => exact ⟨(fun e => nomatch e), fun e => absurd (hall.mpr e.1) h⟩

theorem new_isSome_iff_body (s : Bytes) :
    (Path.new s).isSome ↔ ∀ q ∈ splitDot (Path.body s), q.length = 4 := by
  simp only [Option.isSome_iff_exists, new_eq_some_iff, exists_and_left, exists_eq, and_true]

/-- **C09(a)** refusal: `Path::new` panics exactly when some dot-separated piece (after the
    optional root character) is not 4 bytes long; otherwise it keeps the pieces verbatim. -/
theorem new_none_iff (s : Bytes) :
    Path.new s = none ↔ ∃ p ∈ splitDot (Path.body s), p.length ≠ 4 := by
  rw [← Option.not_isSome_iff_eq_none, new_isSome_iff_body]
  simp only [Classical.not_forall, exists_prop]

theorem new_some (s : Bytes) (p : Path) (h : Path.new s = some p) :
    p.root = Path.isRooted s ∧ p.parts = splitDot (Path.body s) ∧
    (∀ q ∈ p.parts, q.length = 4) ∧ 1 ≤ p.parts.length := by
  obtain ⟨hall, rfl⟩ := (new_eq_some_iff s p).mp h
  exact ⟨rfl, rfl, hall, List.length_pos_iff.mpr (splitDot_ne_nil _)⟩

/-- **C09(b)** form: root character if rooted; nothing / DualNamePrefix / MultiNamePrefix
    + count; then the segments verbatim. -/
theorem enc_form (p : Path) :
    p.enc = (if p.root then [0x5C] else []) ++
      (if p.parts.length ≤ 1 then [] else if p.parts.length = 2 then [0x2E]
       else [0x2F, UInt8.ofNat p.parts.length]) ++ p.parts.flatten := by
  unfold Path.enc namePrefix
  congr 2
  rcases hn : p.parts.length with _ | _ | _ | n <;> simp

/-- a NameSeg is four bytes, the first a lead character -/
theorem isSeg_four {q : Bytes} (h : isSeg q = true) :
    ∃ a b c d, q = [a, b, c, d] ∧ isLead a = true := by
  unfold isSeg at h
  split at h
  · exact ⟨_, _, _, _, rfl, by simp only [Bool.and_eq_true] at h; exact h.1.1.1⟩
  · cases h

theorem segs_flatten (parts : List Bytes) (rest : Bytes) (h : ∀ q ∈ parts, isSeg q = true) :
    segs parts.length (parts.flatten ++ rest) = some (parts, rest) := by
  induction parts with
  | nil => simp [segs]
  | cons q qs ih =>
    have hq : isSeg q = true := h q (by simp)
    have hl : q.length = 4 := by
      obtain ⟨_, _, _, _, rfl, _⟩ := isSeg_four hq; rfl
    simp only [List.length_cons, segs, List.flatten_cons, List.append_assoc]
    rw [List.take_left' hl, List.drop_left' hl]
    simp [hq, ih (fun x hx => h x (by simp [hx]))]

theorem lead_of_seg (q : Bytes) (h : isSeg q = true) :
    ∃ a t, q = a :: t ∧ isLead a = true := by
  obtain ⟨a, b, c, d, rfl, ha⟩ := isSeg_four h
  exact ⟨a, [b, c, d], rfl, ha⟩

theorem lead_ne (a : UInt8) (h : isLead a = true) : a ≠ 0x2E ∧ a ≠ 0x2F ∧ a ≠ 0x5C := by
  refine ⟨?_, ?_, ?_⟩ <;> (intro e; subst e; revert h; decide)

theorem namePath_enc (parts : List Bytes) (rest : Bytes) (h : ∀ q ∈ parts, isSeg q = true)
    (h1 : 1 ≤ parts.length) (h2 : parts.length ≤ 255) :
    namePath (namePrefix parts.length ++ parts.flatten ++ rest) = some (parts, rest) ∧
    (namePrefix parts.length ++ parts.flatten ++ rest).head? ≠ some 0x5C := by
  have hs := segs_flatten parts rest h
  match parts, h, h1, h2, hs with
  | [q], h, _, _, hs =>
    obtain ⟨a, t, rfl, ha⟩ := lead_of_seg q (h q (by simp))
    obtain ⟨n1, n2, n3⟩ := lead_ne a ha
    simp only [namePrefix, List.length_cons, List.length_nil, List.nil_append,
      List.flatten_cons, List.flatten_nil, List.append_nil, List.cons_append] at hs ⊢
    refine ⟨?_, by simpa using n3⟩
    unfold namePath
    split
    · rename_i heq; simp at heq; exact absurd heq.1 n1
    · rename_i heq; simp at heq; exact absurd heq.1 n2
    · exact hs
  | [q1, q2], h, _, _, hs =>
    simp only [namePrefix, List.length_cons, List.length_nil] at hs ⊢
    refine ⟨?_, by simp⟩
    simpa [namePath] using hs
  | q1 :: q2 :: q3 :: qs, h, _, h2, hs =>
    simp only [List.length_cons] at h2 hs
    have ht : (UInt8.ofNat (qs.length + 1 + 1 + 1)).toNat = qs.length + 1 + 1 + 1 :=
      UInt8.toNat_ofNat_of_lt' (Nat.lt_succ_of_le h2)
    have hn : (UInt8.ofNat (qs.length + 1 + 1 + 1)) ≠ 0 := fun e => by
      rw [e] at ht
      cases ht
    simp only [namePrefix, List.length_cons, List.cons_append, List.nil_append, namePath]
    refine ⟨?_, by simp⟩
    simp only [hn, if_false, ht]
    simpa using hs

/-- **C09(c)** round trip: for 1..255 segments over the AML name alphabet, rooted or not,
    decoding the emitted bytes returns the same rootedness and segments and stops exactly
    at the end of the name. -/
theorem decode_enc (p : Path) (rest : Bytes) (h : ∀ q ∈ p.parts, isSeg q = true)
    (h1 : 1 ≤ p.parts.length) (h2 : p.parts.length ≤ 255) :
    decode (p.enc ++ rest) = some (p.root, p.parts, rest) := by
  obtain ⟨hp, hne⟩ := namePath_enc p.parts rest h h1 h2
  unfold Path.enc
  cases hr : p.root
  · simp only [Bool.false_eq_true, if_false, List.nil_append]
    unfold decode
    split
    · rename_i heq; rw [heq] at hne; simp at hne
    · simp only [List.append_assoc] at hp; simp [hp]
  · simp only [if_true, List.cons_append, List.nil_append, List.append_assoc, decode] at hp ⊢
    simp [hp]

/-- segment counts above 255 are refused (C18 side) -/
theorem refuses_long (p : Path) (h : 255 < p.parts.length) : p.encPanics = true := by
  simp [Path.encPanics, h]

/-- non-vacuity (`\_SB_.PCI0`, `_SB_.PCI`) -/
example : Path.new [0x5C, 0x5F, 0x53, 0x42, 0x5F, 0x2E, 0x50, 0x43, 0x49, 0x30] =
    some ⟨true, [[0x5F, 0x53, 0x42, 0x5F], [0x50, 0x43, 0x49, 0x30]]⟩ := by decide
example : Path.new [0x5F, 0x53, 0x42, 0x5F, 0x2E, 0x50, 0x43, 0x49] = none := by decide
example : decode ((⟨true, [[0x5F, 0x53, 0x42, 0x5F], [0x50, 0x43, 0x49, 0x30]]⟩ : Path).enc ++ [1, 2])
    = some (true, [[0x5F, 0x53, 0x42, 0x5F], [0x50, 0x43, 0x49, 0x30]], [1, 2]) := by decide

end Acpi.C09
