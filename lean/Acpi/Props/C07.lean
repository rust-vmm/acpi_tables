/-
  C07 — PkgLength encodings are correct for every representable length.
  Model: Acpi.Aml.PkgLen (mirror of `create_pkg_length`); spec: Acpi.Spec.PkgLength.
-/
import Acpi.Lemmas.PkgLen
namespace Acpi.C07
open Spec.PkgLength

/-- **C07(a)**: for every content size whose total is representable (< 2^28), in the
    self-inclusive form (`incl = true`, objects) and the exclusive form (`incl = false`,
    field-list entries), the emitted prefix decodes by the specification's rule to exactly
    the total (content + prefix, resp. content), consuming exactly the bytes emitted,
    whatever follows. -/
theorem decode_pkgLen (c : Nat) (incl : Bool) (rest : Bytes)
    (h : pkgLenTotal c incl < 2 ^ 28) :
    decode (pkgLen c incl ++ rest) = some (pkgLenTotal c incl, pkgLenWidth c) := by
  have hm := pkgLenTotal_le_maxOf c incl h
  have hw := pkgLenWidth_cases c
  unfold maxOf at hm
  rw [pkgLen_eq]
  split
  · next h1 =>
    rw [h1] at hm ⊢
    exact decode_one _ _ (by simpa using Nat.lt_succ_of_le hm)
  · next h1 =>
    rw [if_neg h1] at hm
    rw [List.cons_append, decode_multi (pkgLenWidth c - 1) (by omega) (by omega), Nat.sub_add_cancel (by omega)]
    -- the follow bytes hold the total: `T ≤ 2 ^ (8 w - 4) - 1`
    rcases hw with ⟨w, _⟩ | ⟨w, _⟩ | ⟨w, _⟩ | ⟨w, _⟩ <;> rw [w] at hm ⊢ <;> simp at hm ⊢ <;> omega

theorem length_pkgLen (c : Nat) (incl : Bool) : (pkgLen c incl).length = pkgLenWidth c := by
  rw [pkgLen_eq]
  have := pkgLenWidth_cases c
  split
  · next h => rw [h]; rfl
  · rw [List.length_cons, length_leN]; omega

/-- the PkgLength of a field width (exclusive of itself) decodes to that width -/
theorem decode_pkgLen_excl (c : Nat) (rest : Bytes) (h : ¬ pkgLenPanics c false = true) :
    decode (pkgLen c false ++ rest) = some (c, pkgLenWidth c) := by
  rw [decode_pkgLen c false rest (pkgLenTotal_lt_of_not_panics h)]
  simp [pkgLenTotal]

/-- objects: the decoded value is the distance from the prefix's first byte to the end of
    the object, i.e. prefix length + content length -/
theorem decode_object (c : Nat) (content rest : Bytes) (hc : content.length = c)
    (h : pkgLenTotal c true < 2 ^ 28) :
    decode (pkgLen c true ++ content ++ rest)
      = some ((pkgLen c true ++ content).length, (pkgLen c true).length) := by
  rw [List.append_assoc, decode_pkgLen c true _ h]
  rw [List.length_append, length_pkgLen, hc, pkgLenTotal, if_pos rfl, Nat.add_comm]

/-- **C07(b)** lead-byte format: follow-byte count in bits 7–6; bits 5–4 zero when follow
    bytes are present. -/
theorem lead_byte_format (c : Nat) (incl : Bool) :
    ∃ b0 tl, pkgLen c incl = b0 :: tl ∧ b0.toNat / 64 = pkgLenWidth c - 1 ∧
      (1 < pkgLenWidth c → b0.toNat / 16 % 4 = 0) := by
  have hw := pkgLenWidth_cases c
  rw [pkgLen_eq]
  split
  · next h1 =>
    -- width 1 means `c < 63`, and the total adds at most the width
    have : pkgLenTotal c incl < 64 := by
      unfold pkgLenTotal; cases incl <;> simp [h1] <;> omega
    refine ⟨_, _, rfl, ?_, fun h => by omega⟩
    rw [UInt8.toNat_ofNat_of_lt' (Nat.lt_trans this (by decide)), h1]
    omega
  · next h1 =>
    have := pkgLen_lead_toNat (pkgLenWidth c - 1) (by omega) (pkgLenTotal c incl)
    refine ⟨_, _, rfl, ?_, fun _ => ?_⟩ <;> rw [this] <;> omega

/-- **C07(c)** minimality of the self-inclusive form: no narrower prefix could carry its
    own size plus the content. -/
theorem minimal (c w' : Nat) (h1 : 1 ≤ w') (h2 : w' < pkgLenWidth c) : maxOf w' < c + w' := by
  have hw := pkgLenWidth_cases c
  -- a narrower width is 1, 2 or 3; `maxOf` of it is a number, below the threshold at which `pkgLenWidth` leaves it
  have : w' = 1 ∨ w' = 2 ∨ w' = 3 := by omega
  rcases this with rfl | rfl | rfl <;> simp [maxOf] <;> omega

/-- and the chosen width does carry it (whenever anything can) -/
theorem fits (c : Nat) (h : pkgLenTotal c true < 2 ^ 28) :
    c + pkgLenWidth c ≤ maxOf (pkgLenWidth c) := by
  have := pkgLenTotal_le_maxOf c true h
  rwa [pkgLenTotal, if_pos rfl] at this

/-- **C18 side**: a total that does not fit in 28 bits is refused. -/
theorem refused_iff (c : Nat) (incl : Bool) :
    pkgLenPanics c incl = true ↔ 2 ^ 28 ≤ pkgLenTotal c incl := by
  simp [pkgLenPanics]

/-- non-vacuity: the hypotheses are met at and around every width boundary -/
example : pkgLenTotal 62 true < 2 ^ 28 ∧ pkgLenTotal 63 true < 2 ^ 28 ∧
    pkgLenTotal 4093 true < 2 ^ 28 ∧ pkgLenTotal 4094 true < 2 ^ 28 ∧
    pkgLenTotal 1048573 true < 2 ^ 28 ∧ pkgLenTotal (2 ^ 28 - 5) true < 2 ^ 28 := by decide
example : decode (pkgLen 63 true) = some (65, 2) := by decide
example : decode (pkgLen 63 false) = some (63, 2) := by decide

end Acpi.C07
