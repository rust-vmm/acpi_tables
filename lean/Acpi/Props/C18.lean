/-
  C18 — counts and sizes too large for their field are refused, never wrapped.

  The model's refusals are the `none` / `panics` / `error "refused"` outcomes; after the
  `fix:` commits they do not depend on the build profile (every refusal is an `assert!` or a
  checked operation, not an overflow trap), so one theorem per site covers both the build
  with overflow checks and the default release build — the correspondence check runs the
  `overflow` cases against both builds.  The converse half ("bytes returned ⇒ count and length
  fields agree with the content") is what C03 / C06 / C07 / C10 prove under "no panic", and for
  the counts of the whole AML tree Props/C18/Accepted.lean (`accepted_counts_fit`,
  `pkg_count_field`, `method_flags_argcount`).
-/
import Acpi.Lemmas.AmlTable
import Acpi.Props.C15
import Acpi.Tables.Build
import Acpi.Tables.Fixed
import Acpi.Tbl
import Acpi.Props.C07
import Acpi.Props.C09
namespace Acpi.C18

/-- more than 255 package elements (`Package` and `PackageBuilder`) -/
theorem package_refused (op : Op) (hop : op = .pkg ∨ op = .pkgb) (ints : List Nat) (blobs : List Bytes)
    (kids : AmlList) (h : 255 < kids.length) : (Aml.node op ints blobs kids).enc = none := by
  -- the refusal is the guard of the `Package` row; the builder form is the same encoder (C15)
  have := (Lemmas.AmlParse.opRow_enc (op := .pkg) (ints := ints) (blobs := blobs) (kids := kids)
    rfl).trans (if_pos h)
  rcases hop with rfl | rfl
  · exact this
  · rw [C15.pkgb_eq_pkg]; exact this

/-- more than 255 name segments -/
theorem name_segments_refused (p : Path) (h : 255 < p.parts.length) : p.encPanics = true :=
  C09.refuses_long p h

/-- more than 7 method arguments -/
theorem method_args_refused (ints : List Nat) (blobs : List Bytes) (kids : AmlList)
    (h : 7 < ints.getD 0 0) : (Aml.node .method ints blobs kids).enc = none :=
  (Lemmas.AmlParse.opRow_enc (op := .method) rfl).trans (if_pos h)

/-- a PkgLength of 2^28 or more (both forms), hence every length-prefixed object whose body
    does not fit -/
theorem pkglength_refused (len : Nat) (incl : Bool) (h : 2 ^ 28 ≤ pkgLenTotal len incl) :
    pkgLenPanics len incl = true := (C07.refused_iff len incl).mpr h

theorem object_refused (opcode body : Bytes) (h : 2 ^ 28 ≤ pkgLenTotal body.length true) :
    pkgObj opcode body = none :=
  if_pos (pkglength_refused _ _ h)

/-- an address range whose size does not fit its width, or with maximum below minimum -/
theorem address_range_refused (bits ty tf mn mx tr : Nat) (h : mx < mn ∨ 2 ^ bits ≤ mx - mn + 1) :
    addrSpace bits ty tf mn mx tr = none :=
  if_pos h

/-- a PPTT processor node longer than its one-byte length field can say -/
theorem pptt_processor_refused (a : EArgs) (h : 255 < 20 + 4 * (a.s.getD 0 []).length) :
    panics .proc a = true := decide_eq_true h
/-- more CXIMS XOR bitmaps than the one-byte count field can say -/
theorem cxims_refused (a : EArgs) (h : 255 < (a.s.getD 0 []).length) : panics .cxims a = true :=
  decide_eq_true h
/-- more SMBIOS handles than the two-byte count field of the HMAT memory-side cache can say -/
theorem hmat_smbios_refused (a : EArgs) (h : 65535 < (a.s.getD 0 []).length) : panics .msc a = true :=
  decide_eq_true h
/-- an RHCT hart info node longer than its two-byte length field can say -/
theorem rhct_hart_refused (a : EArgs) (h : 65535 < 12 + 4 * (a.s.getD 0 []).length) :
    panics .hart a = true := decide_eq_true h
/-- a RIMT IOMMU node longer than its two-byte length field can say -/
theorem rimt_iommu_refused (a : EArgs) (h : 65535 < 32 + 8 * (if a.num 10 ≠ 0 then a.s.length else 0)) :
    panics .iommu a = true := by simp only [panics]; exact decide_eq_true h
/-- a RIMT PCIe root complex node longer than its two-byte length field can say -/
theorem rimt_pcierc_refused (a : EArgs) (h : 65535 < 16 + 20 * (if a.num 4 ≠ 0 then a.s.length else 0)) :
    panics .pcierc a = true := by simp only [panics]; exact decide_eq_true h
/-- a RIMT platform device node longer than its two-byte length field can say -/
theorem rimt_platform_refused (a : EArgs)
    (h : 65535 < 12 + (a.blob 0).length + 1 + 20 * (if a.num 1 ≠ 0 then a.s.length else 0)) :
    panics .platform a = true := by simp only [panics]; exact decide_eq_true h

/-- a refusal inside serialisation refuses the whole builder program -/
theorem build_refused (k : Kind) (c : EArgs) (opts : List Opt) (a : EArgs)
    (hc : ctorPanics k c = false) (ha : applyOpts k (init k c) opts = .ok a) (hp : panics k a = true) :
    buildEntry k c opts = .error "refused" := by
  simp [buildEntry, hc, ha, hp]

/-- VIOT: a node whose end would lie beyond the 16-bit offset field is refused by the table -/
theorem viot_offset_refused (t : Tbl) (raw : Bytes) (claimed : Nat) (fed : UInt8) (m : Nat)
    (hm : t.cfg.maxOffset = some m) (h : m < t.handleOffset + claimed) :
    t.add raw claimed fed = none := by
  simp [Tbl.add, hm, h]

/-- SLIT: a locality count whose square (plus the 44 fixed bytes) does not fit 32 bits -/
theorem slit_refused (o : Oem) (c : EArgs) (h : 2 ^ 32 ≤ c.num 0 * c.num 0 + 44) :
    FixedState.new .slit o c = none := by
  simp only [FixedState.new]
  rw [if_pos (Or.inr h)]

/-- non-vacuity: 59 cache references make a processor node 256 bytes long -/
example : panics .proc { s := [List.replicate 59 0] } = true := by decide

end Acpi.C18
