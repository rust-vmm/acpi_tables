/-
  C12 — locality matrices hold, per cell, the last value assigned to that cell.

  The per-cell meaning is the *specification side* of the layouts: `Spec.slitCell` (the last
  distance assigned to the unordered pair, else 10; cell (i,j) at offset 44 + i·N + j) and the
  HMAT `cell i j` of `Spec.rows .loc` (the last value assigned to (i,j), else 0xFFFF, at index
  i·T + j — stride = number of targets).  The theorems below say that the model, which folds
  the assignments in program order on a flat vector like the Rust, produces exactly that.
-/
import Acpi.Props.C04
import Acpi.Props.C04.Fixed
import Acpi.Props.C01.Fixed
namespace Acpi.C12
open Spec

/-- **C12 (HMAT)**: for every shape I×T (square or not, single row/column, empty), every
    sequence of flag calls, initiator/target writes and `set_entry_value i j v`: if no call
    panics the structure is the reference encoding in which cell (i,j) — at byte offset
    32 + 4I + 4T + 2(i·T + j) — holds the last value assigned to (i,j), else 0xFFFF, and every
    other cell is untouched. -/
theorem hmat_locality (c : EArgs) (opts : List Opt) (a : EArgs)
    (hwf : entryWf .loc c opts = true) (h : buildEntry .loc c opts = .ok a) :
    layoutOracle .loc c opts (entryBytes .loc a) = none :=
  C04.conforms_loc c opts a hwf h

/-- every in-range pair is accepted (the only refusals are out-of-range indices) -/
theorem hmat_in_range_accepted (a : EArgs) (i j v : Nat) (hi : i < a.num 4) (hj : j < a.num 5) :
    (applyOpt .loc a ⟨"sete", [i, j, v]⟩).isSome = true := by
  show (if i < a.num 4 ∧ j < a.num 5 then some _ else none : Option EArgs).isSome = true
  rw [if_pos ⟨hi, hj⟩]; rfl

/-- **C12 (SLIT)**: after every sequence of `set_distance` (repeated, diagonal, mirrored), the
    image is the reference encoding whose cell (i,j) and mirror cell (j,i) hold the last
    distance assigned to the unordered pair {i,j}, else 10 … -/
theorem slit_cells (o : Oem) (c : EArgs) (ops : List Opt) (s : FixedState)
    (hwf : C04.fixedWf .slit o c ops) (hrun : runFixed .slit o c ops = some s) :
    let img := s.image
    let (total, rows) := fixedRows .slit o c ops (img.getD 8 0).toNat (img.getD 9 0).toNat (img.getD 32 0).toNat
    conforms total rows img = none := by
  have := C04.fixed_conforms .slit o c ops s hwf hrun
  simpa using this

/-- … the mirror cells agree by construction of the reference … -/
theorem slitCell_symm (ops : List Opt) (i j : Nat) : slitCell ops i j = slitCell ops j i := by
  unfold slitCell
  have : (fun o : Opt => decide (o.name = "dist" ∧ (o.arg 0 = i ∧ o.arg 1 = j ∨ o.arg 0 = j ∧ o.arg 1 = i))) =
      (fun o : Opt => decide (o.name = "dist" ∧ (o.arg 0 = j ∧ o.arg 1 = i ∨ o.arg 0 = i ∧ o.arg 1 = j))) := by
    funext o
    simp only [decide_eq_decide]
    constructor <;> (intro ⟨h1, h2⟩; exact ⟨h1, h2.symm⟩)
  rw [this]

/-- … every in-range pair is accepted … -/
theorem slit_accepts (o : Oem) (n : Nat) (ops : List Opt) (hn : n * n + 44 < 2 ^ 32)
    (hops : ∀ op ∈ ops, op.name = "dist" ∧ op.arg 0 < n ∧ op.arg 1 < n) :
    ∃ s, runFixed .slit o { n := #[n] } ops = some s :=
  C04.slit_accepts o n ops hn hops

/-- … and the checksum stays valid throughout. -/
theorem slit_checksum (o : Oem) (c : EArgs) (ops : List Opt) (s : FixedState)
    (hrun : runFixed .slit o c ops = some s) : sum8 s.image = 0 :=
  C01.fixed_sum_zero .slit o c ops s ⟨by decide, by decide⟩ hrun

end Acpi.C12
