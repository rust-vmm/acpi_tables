/-
  C10 — resource descriptors and templates are correctly framed and valued.
  Model: `Aml.enc` on the descriptor constructors and `.rt` (Acpi.Aml.Term); spec:
  Acpi.Spec.Res (reference rows per ACPI 6.5 §6.4.2/6.4.3, `itemSize`, `walk`).
-/
import Acpi.Lemmas.Res
import Acpi.Lemmas.AmlEnc
namespace Acpi.C10
open Spec

def isDescriptor : Op → Bool
  | .mem32 | .io | .irq | .reg | .asmem | .asio | .asbus => true
  | _ => false

/-- arguments within their Rust types -/
def descWf (op : Op) (ints : List Nat) : Prop :=
  let i (k : Nat) := ints.getD k 0
  match op with
  | .mem32 => i 1 < 2 ^ 32 ∧ i 2 < 2 ^ 32
  | .io => i 0 < 2 ^ 16 ∧ i 1 < 2 ^ 16 ∧ i 2 < 256 ∧ i 3 < 256
  | .irq => i 4 < 2 ^ 32
  | .reg => i 0 < 256 ∧ i 1 < 256 ∧ i 2 < 256 ∧ i 3 < 256 ∧ i 4 < 2 ^ 64
  | .asmem => (i 0 = 16 ∨ i 0 = 32 ∨ i 0 = 64) ∧ i 1 < 4 ∧ i 3 < 2 ^ i 0 ∧ i 4 < 2 ^ i 0 ∧ i 6 < 2 ^ i 0
  | .asio => (i 0 = 16 ∨ i 0 = 32 ∨ i 0 = 64) ∧ i 1 < 2 ^ i 0 ∧ i 2 < 2 ^ i 0 ∧ i 4 < 2 ^ i 0
  | .asbus => (i 0 = 16 ∨ i 0 = 32 ∨ i 0 = 64) ∧ i 1 < 2 ^ i 0 ∧ i 2 < 2 ^ i 0
  | _ => True

/-- **C10 (descriptors)**: every descriptor the crate emits is the reference encoding: the
    specification's tag, the caller's values at the specification's offsets — each cut to the
    width of its field, as the reference rendering cuts it; that nothing is cut for well-formed
    arguments is C10/Fits — for address spaces range length = maximum − minimum + 1 with the
    min/max-fixed flags set. -/
theorem descriptor_conforms (op : Op) (hop : isDescriptor op = true) (ints : List Nat) (blobs : List Bytes)
    (kids : AmlList) (hwf : descWf op ints) (bs : Bytes) (h : (Aml.node op ints blobs kids).enc = some bs) :
    ∃ total rs, Res.rows op ints = some (total, rs) ∧ conforms total rs bs = none := by
  cases op <;> first
    | exact absurd hop (by decide)
    | exact ⟨_, _, rfl, Res.desc_conforms rfl h rfl⟩

/-- the reference rows carry what `Res.itemSize` reads: tag and 16-bit length of a large item, the
    length bits of the small I/O item -/
theorem rows_framed {op : Op} {ints : List Nat} {total : Nat} {rs : List Row} (hwf : descWf op ints)
    (h : Res.rows op ints = some (total, rs)) (rest : Bytes) :
    Res.itemSize (render rs ++ rest) = some (false, total) := by
  cases op <;> cases h <;>
    simp only [render, List.flatMap_cons, List.flatMap_nil, Row.bytes, leN_one, List.append_assoc, List.cons_append,
      List.nil_append, apply_ite UInt8.ofNat]
  case io => simp [Res.itemSize]
  case asmem | asio | asbus =>
    have hw : ints.getD 0 0 = 16 ∨ ints.getD 0 0 = 32 ∨ ints.getD 0 0 = 64 := hwf.1
    rw [Res.itemSize_large _ _ _ ?_ (by omega)]
    · congr 2; omega
    · split
      · decide
      · split <;> decide
  all_goals rw [Res.itemSize_large _ _ _ (by decide) (by decide)]

/-- **C10 (framing)**: the length field equals the number of payload bytes that follow it:
    large items (bit 7 of the tag set) carry it as 16 bits after the tag, the small I/O item in
    the low three bits of the tag; i.e. `Res.itemSize` of the emitted bytes is their length. -/
theorem descriptor_framed (op : Op) (hop : isDescriptor op = true) (ints : List Nat) (blobs : List Bytes)
    (kids : AmlList) (hwf : descWf op ints) (bs rest : Bytes) (h : (Aml.node op ints blobs kids).enc = some bs) :
    Res.itemSize (bs ++ rest) = some (false, bs.length) := by
  obtain ⟨total, rs, hr, hc⟩ := descriptor_conforms op hop ints blobs kids hwf bs h
  obtain ⟨ht, rfl⟩ := (conforms_none_iff ..).mp hc
  rw [rows_framed hwf hr, ← tilesFrom_length 0 total rs ht, Nat.zero_add]

/-- all children of a template are descriptors with arguments within their Rust types (`descWf`) -/
def allDescriptors : AmlList → Prop
  | .nil => True
  | .cons (.node op ints _ _) r => isDescriptor op = true ∧ descWf op ints ∧ allDescriptors r

/-- the walk over the children's encodings followed by the end tag -/
theorem walk_kids (kids : AmlList) (hk : allDescriptors kids) (ds : Bytes)
    (h : catOpt (AmlList.encs kids) = some ds) : ∀ fuel, ds.length + 1 ≤ fuel →
    Res.walk fuel (ds ++ [0x79, 0x00]) = some ((AmlList.encs kids).filterMap id ++ [[0x79, 0x00]]) := by
  induction kids, ds, h using catOpt_encs_induction with
  | nil =>
    intro fuel hf
    obtain ⟨f, rfl⟩ := Nat.exists_eq_add_one_of_ne_zero (by omega : fuel ≠ 0)
    simpa [AmlList.encs] using Res.walk_end f
  | cons a r d ds' hd _ ih =>
    intro fuel hf
    obtain ⟨op, ints, blobs, ks⟩ := a
    obtain ⟨hop, hwf, hrest⟩ := hk
    have hfr := descriptor_framed op hop ints blobs ks hwf d (ds' ++ [0x79, 0x00]) hd
    have hp := Res.itemSize_pos _ _ _ hfr
    simp only [List.length_append] at hf
    obtain ⟨f, rfl⟩ := Nat.exists_eq_add_one_of_ne_zero (by omega : fuel ≠ 0)
    rw [List.append_assoc, Res.walk_item f d _ hfr, ih hrest f (by omega), AmlList.encs, hd]
    simp

/-- **C10 (templates)**: a resource template of 0..n descriptors is `BufferOp PkgLength
    BufferSize payload` where the PkgLength spans the object, BufferSize is the narrowest
    integer encoding of the payload size, the payload is the child descriptors in order
    followed by the end tag `79 00`, and the walk by the descriptors' own length fields tiles
    it exactly. -/
theorem template_framed (ints : List Nat) (blobs : List Bytes) (kids : AmlList) (hk : allDescriptors kids)
    (bs : Bytes) (h : (Aml.node .rt ints blobs kids).enc = some bs) :
    ∃ payload ds,
      catOpt (AmlList.encs kids) = some ds ∧ payload = ds ++ [0x79, 0x00] ∧
      bs = [0x11] ++ pkgLen (payload.length + (Spec.Int.enc payload.length).length) true ++
        Spec.Int.enc payload.length ++ payload ∧
      PkgLength.decode (bs.drop 1) = some (bs.length - 1, (pkgLen (payload.length + (Spec.Int.enc payload.length).length) true).length) ∧
      Res.walk (payload.length + 1) payload =
        some ((AmlList.encs kids).filterMap id ++ [[0x79, 0x00]]) := by
  obtain ⟨ds, hc, hobj⟩ := rt_enc_some h
  obtain ⟨_, _, hbs, hdec⟩ := buffer_some hobj
  rw [List.length_append (as := Spec.Int.enc _), Nat.add_comm] at hbs hdec
  exact ⟨_, ds, hc, rfl, by rw [hbs]; simp only [List.append_assoc], hdec, walk_kids kids hk ds hc _ (by simp only [List.length_append]; omega)⟩

end Acpi.C10
