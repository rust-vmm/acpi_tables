/-
  C06 — emitted AML parses back to exactly the term tree the caller built.
  Model: `Aml.enc` (Acpi.Aml.Term).  Spec: the grammar table, the generic parser and the
  meaning map of Acpi.Spec.Aml; well-formedness guard Acpi.Spec.AmlWf.

  The proof is laid out in DESIGN.md §19 (Lemmas/Aml*.lean).
-/
import Acpi.Lemmas.AmlNonRows
namespace Acpi.C06
open Spec Spec.Aml Lemmas.AmlParse

/-- **C06**: for every well-formed tree (any nesting shape and depth, any body size for which
    the encoder does not refuse), the grammar-driven parser, told only the arities of invoked
    methods, consumes the emitted bytes exactly — whatever follows them — and recovers the
    meaning of the tree: the specification's opcode for each operator, operands in the
    specification's order, every length-delimited object ending where its last child ends,
    every name, constant, flag and child unchanged. -/
def Full : Prop :=
  ∀ (env : Env) (t : Aml) (bs rest : Bytes) (fuel : Nat),
    wf env t = true → okTerm t = true → t.enc = some bs → 8 * bs.length + 16 ≤ fuel →
    parseTerm env fuel (bs ++ rest) = some (meaning t, rest)

/-- constructors that are not terms (descriptors, field entries, field names): nothing to prove -/
theorem step_nonterm (env : Env) (op : Op)
    (h : (!(isDesc op) && op != .fnamed && op != .freserved && op != .fieldname) = false) : RTStep env op := by
  intro ints blobs kids _ bs rest fuel _ hok
  simp only [okTerm, h] at hok
  exact absurd hok (by decide)

theorem step_all (env : Env) (op : Op) : RTStep env op := by
  cases op
  case zero => exact step_zero env
  case one => exact step_one env
  case u8 => exact step_u8 env
  case u16 => exact step_u16 env
  case u32 => exact step_u32 env
  case u64 => exact step_u64 env
  case usize => exact step_usize env
  case str => exact step_str env
  case path => exact step_path env
  case eisa => exact step_eisa env
  case uuid => exact step_uuid env
  case buf => exact step_buf env
  case arg => exact step_arg env
  case local_ => exact step_local env
  case pkgb => exact step_pkgb env
  case rt => exact step_rt env
  case scoperaw => exact step_scoperaw env
  case ne => exact step_ne env
  case ge => exact step_ge env
  case le => exact step_le env
  case call => exact step_call env
  case fieldname | mem32 | io | irq | reg | asmem | asio | asbus | fnamed | freserved =>
    exact step_nonterm env _ rfl
  -- the 47 constructors of the row table
  all_goals exact step_row env fun _ _ => rfl

mutual
theorem rt_term (env : Env) : (t : Aml) → RT env t
  | .node op ints blobs kids => step_all env op ints blobs kids (rt_list env kids)
theorem rt_list (env : Env) : (l : AmlList) → RTs env l
  | .nil => trivial
  | .cons a r => ⟨rt_term env a, rt_list env r⟩
end

/-- **C06**, in full: no constructor of the crate is excluded. -/
theorem parse_roundtrip : Full :=
  fun env t bs rest fuel hw hk he hf => rt_term env t bs rest fuel hw hk he hf

/-- the parse that `parsesTo` (the oracle the harness evaluates) starts with, on the encoder's
    output and with `parsesTo`'s own fuel: the meaning of the tree and no byte left.  (`parsesTo`
    then compares with `Tm.beq`, about which nothing is proved.) -/
theorem parsesTo_enc (env : Env) (t : Aml) (bs : Bytes) (hw : wf env t = true) (hk : okTerm t = true)
    (he : t.enc = some bs) :
    parseTerm env (8 * bs.length + 16) bs = some (meaning t, []) := by
  have := parse_roundtrip env t bs [] _ hw hk he (Nat.le_refl _)
  rwa [List.append_nil] at this

end Acpi.C06
