/-
  Mixed programs (Props/C0x/Mixed.lean): `buildMixed` lines up one engine entry per call
  (`LinedUp`), `runMixed` is its guard, `buildMixed`, and `runAdds` on the lined-up entries
  (`runMixed_some`); the truthful-length side condition of the engine theorems; a program without
  opaque calls is a `runTable` program.
-/
import Acpi.Tables.Mixed
import Acpi.Lemmas.Whole
namespace Acpi.Mixed
open Spec

@[simp] theorem modelledOps_nil : modelledOps [] = [] := rfl
@[simp] theorem modelledOps_modelled (op : AddOp) (ms : List MOp) :
    modelledOps (.modelled op :: ms) = op :: modelledOps ms := rfl
@[simp] theorem modelledOps_opaque (raw : Bytes) (ms : List MOp) :
    modelledOps (.opaque raw :: ms) = modelledOps ms := rfl

theorem mem_modelledOps (op : AddOp) (ms : List MOp) :
    op ∈ modelledOps ms ↔ MOp.modelled op ∈ ms := by
  induction ms with
  | nil => simp
  | cons m ms ih =>
    cases m with
    | modelled op' =>
      simp only [modelledOps_modelled, List.mem_cons, ih, MOp.modelled.injEq]
    | «opaque» raw =>
      simp only [modelledOps_opaque, List.mem_cons, ih, reduceCtorEq, false_or]

/-- what the engine is handed for one call: the built modelled entry (`entryBytes`, `lenOf`), or
    the opaque bytes with their length -/
def LinedUp (m : MOp) (e : Bytes × Nat) : Prop :=
  (∀ op, m = .modelled op →
    ∃ a, buildEntry op.k op.ctor op.opts = .ok a ∧ e = (entryBytes op.k a, lenOf op.k a)) ∧
  (∀ raw, m = .opaque raw → e = (raw, raw.length))

theorem buildMixed_cons_some {m : MOp} {ms : List MOp} {es : List (Bytes × Nat)}
    (h : buildMixed (m :: ms) = some es) :
    ∃ e es', LinedUp m e ∧ buildMixed ms = some es' ∧ es = e :: es' := by
  cases m with
  | modelled op =>
    rw [buildMixed] at h
    split at h
    · cases h
    · rename_i a ha
      obtain ⟨r, hr, rfl⟩ := Option.map_eq_some_iff.mp h
      exact ⟨_, r, ⟨fun op' e => by cases e; exact ⟨a, ha, rfl⟩, nofun⟩, hr, rfl⟩
  | «opaque» raw =>
    rw [buildMixed] at h
    obtain ⟨r, hr, rfl⟩ := Option.map_eq_some_iff.mp h
    exact ⟨_, r, ⟨nofun, fun raw' e => by cases e; rfl⟩, hr, rfl⟩

theorem buildMixed_spec : ∀ (ms : List MOp) (es : List (Bytes × Nat)), buildMixed ms = some es →
    es.length = ms.length ∧
    ∀ i (hi : i < ms.length) (hi' : i < es.length), LinedUp ms[i] es[i]
  | [], es, h => by
    cases h
    exact ⟨rfl, fun i hi => absurd hi (Nat.not_lt_zero i)⟩
  | m :: ms, es, h => by
    obtain ⟨e, r, hl, hr, rfl⟩ := buildMixed_cons_some h
    obtain ⟨h1, h2⟩ := buildMixed_spec ms r hr
    refine ⟨by simp only [List.length_cons, h1], fun i hi hi' => ?_⟩
    cases i with
    | zero => exact hl
    | succ i => exact h2 i (by simpa using hi) (by simpa using hi')

theorem runMixed_some {T : TableId} {o : Oem} {ms : List MOp} {hs : List Nat} {t : Tbl}
    (h : runMixed T o ms = some (hs, t)) :
    (∀ op, MOp.modelled op ∈ ms → tableOf op.k = some T.name) ∧
    ∃ es, buildMixed ms = some es ∧ runAdds (Tbl.new T.cfg o) es = some (hs, t) := by
  unfold runMixed at h
  split at h
  · rename_i hc
    simp only [Bool.and_eq_true, List.all_eq_true, TableId.accepts, decide_eq_true_eq] at hc
    refine ⟨fun op hop => hc.1 op ((mem_modelledOps op ms).mpr hop), ?_⟩
    split at h
    · cases h
    · rename_i es hb
      exact ⟨es, hb, h⟩
  · cases h

/-- the claimed length of every lined-up entry is its serialised size: `len()` of a modelled
    entry within its Rust types (C02, entries), the byte count of an opaque one -/
theorem claimed_eq (ms : List MOp)
    (hwf : ∀ op, MOp.modelled op ∈ ms → op.k ≠ .rdpas ∧ entryWf op.k op.ctor op.opts = true)
    (es : List (Bytes × Nat)) (hb : buildMixed ms = some es) :
    ∀ e ∈ es, e.2 = e.1.length := by
  obtain ⟨hl, hget⟩ := buildMixed_spec ms es hb
  intro e he
  obtain ⟨i, hi, rfl⟩ := List.mem_iff_getElem.mp he
  have hi' : i < ms.length := hl ▸ hi
  obtain ⟨h1, h2⟩ := hget i hi' hi
  cases hm : ms[i] with
  | modelled op =>
    obtain ⟨a, ha, e1⟩ := h1 op hm
    obtain ⟨w1, w2⟩ := hwf op (hm ▸ List.getElem_mem hi')
    rw [e1]
    exact (C02.entry_length op.k w1 op.ctor op.opts a w2 ha).symm
  | «opaque» raw =>
    rw [h2 raw hm]
theorem buildMixed_of_no_opaque : ∀ (ms : List MOp), (∀ m ∈ ms, ∃ op, m = .modelled op) →
    buildMixed ms = (buildAll (modelledOps ms)).map fun bs => bs.map rawOf
  | [], _ => rfl
  | m :: ms, h => by
    obtain ⟨op, rfl⟩ := h _ List.mem_cons_self
    have ih := buildMixed_of_no_opaque ms fun m hm => h m (List.mem_cons_of_mem _ hm)
    rw [buildMixed, modelledOps_modelled, buildAll, ih]
    cases buildEntry op.k op.ctor op.opts with
    | error _ => rfl
    | ok a => cases buildAll (modelledOps ms) <;> rfl

theorem runMixed_modelled (T : TableId) (o : Oem) (ms : List MOp)
    (h : ∀ m ∈ ms, ∃ op, m = .modelled op) :
    runMixed T o ms = runTable T o (modelledOps ms) := by
  unfold runMixed runTable
  rw [buildMixed_of_no_opaque ms h]
  cases buildAll (modelledOps ms) <;> rfl

/-- non-vacuity: the example program without its opaque call is the `runTable` program GICC, GICD,
    which runs -/
example : runMixed (.madt 0) Mixed.exOem [Mixed.exProg[0], Mixed.exProg[2]] =
      runTable (.madt 0) Mixed.exOem
        [⟨.gicc, { n := #[1] }, [⟨"pi", [23, 0]⟩]⟩, ⟨.gicd, { n := #[0, 0x8000000, 3] }, []⟩] ∧
    (runTable (.madt 0) Mixed.exOem
        [⟨.gicc, { n := #[1] }, [⟨"pi", [23, 0]⟩]⟩, ⟨.gicd, { n := #[0, 0x8000000, 3] }, []⟩]).isSome = true :=
  ⟨runMixed_modelled _ _ _ (by simp [Mixed.exProg]), by decide +kernel⟩

end Acpi.Mixed
