/-
  C04 for the two remaining byte-producing constructors (Generic Address Structures built by
  helper constructors): ACPI 6.5 §5.2.3.2, Table 5.1 — address space id 1@0, register bit width
  1@1, bit offset 1@2, access size 1@3 (1 byte … 4 qword), address 8@4; for PCI configuration
  space the address is device (bits 47:32), function (31:16), register offset (15:0).
-/
import Acpi.Tables.Misc
import Acpi.Lemmas.Layout
namespace Acpi.C04
open Spec

theorem gasPciConfig_addr (device function register : Nat) (hd : device < 256) (hf : function < 256) (hr : register < 65536) :
    (((device % 256) <<< 32) ||| ((function % 256) <<< 16) ||| (register % 65536)) % 2 ^ 64
      = device * 2 ^ 32 + function * 2 ^ 16 + register := by
  rw [Nat.mod_eq_of_lt hd, Nat.mod_eq_of_lt hf, Nat.mod_eq_of_lt hr]
  have hf' : function < 2 ^ 16 := by omega
  have e1 : device <<< 32 ||| function <<< 16 = (device <<< 16 + function) <<< 16 := by
    have : device <<< 32 = (device <<< 16) <<< 16 := by rw [← Nat.shiftLeft_add]
    rw [this, ← Nat.shiftLeft_or_distrib, ← Nat.shiftLeft_add_eq_or_of_lt hf']
  rw [e1, ← Nat.shiftLeft_add_eq_or_of_lt hr]
  simp only [Nat.shiftLeft_eq]
  omega

/-- reference rows of a Generic Address Structure for a register of `tsize` bytes in I/O or memory
    space, written from ACPI 6.5 Table 5.1: space id 1 / 0, bit width `8 * tsize`, access size code
    1 (byte) … 4 (qword) -/
def genericAddressRows (io : Bool) (tsize addr : Nat) : List Row :=
  gasRows 0 (if io then 1 else 0) (8 * tsize) 0 (if tsize = 1 then 1 else if tsize = 2 then 2 else if tsize = 4 then 3 else 4) addr

/-- reference rows of a Generic Address Structure in PCI configuration space (space id 2), written
    from ACPI 6.5 Table 5.1: address = device (bits 47:32), function (31:16), register offset (15:0) -/
def gasPciRows (width access device function register : Nat) : List Row :=
  gasRows 0 2 width 0 access (device * 2 ^ 32 + function * 2 ^ 16 + register)

/-- `GenericAddress::{io_port,mmio}_address::<T>` is the Generic Address Structure for that
    space, width and access size (T of 1, 2, 4 or 8 bytes) -/
theorem generic_address_conforms (io : Bool) (tsize addr : Nat)
    (ht : tsize = 1 ∨ tsize = 2 ∨ tsize = 4 ∨ tsize = 8) :
    conforms 12 (genericAddressRows io tsize addr) (encFields (genericAddress io tsize addr)) = none := by
  apply conforms_of_eq
  · rfl
  · rcases ht with rfl | rfl | rfl | rfl <;>
      simp [genericAddress, genericAddressRows, gasRows, render, Row.bytes, encFields, Fld.bytes, accessSizeOf]

/-- the constructors refuse exactly the register types that have no Access Size code -/
theorem generic_address_refused_iff (tsize : Nat) :
    genericAddressRefuses tsize = false ↔ (tsize = 1 ∨ tsize = 2 ∨ tsize = 4 ∨ tsize = 8) := by
  simp only [genericAddressRefuses, Bool.not_eq_false', Bool.or_eq_true, beq_iff_eq]
  omega

/-- `GAS::new_pci_config` is the Generic Address Structure of a PCI configuration-space
    register: space id 2, the address word packing device, function and register offset -/
theorem gas_pci_conforms (width access device function register : Nat)
    (hd : device < 256) (hf : function < 256) (hr : register < 65536) :
    conforms 12 (gasPciRows width access device function register)
      (encFields (gasPciConfig width access device function register)) = none := by
  apply conforms_of_eq
  · rfl
  · simp only [gasPciConfig, gasPciConfig_addr device function register hd hf hr]
    simp [gasPciRows, gasRows, gasFields, render, Row.bytes, encFields, Fld.bytes]

end Acpi.C04
