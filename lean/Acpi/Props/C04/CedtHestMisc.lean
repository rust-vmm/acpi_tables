/-
  C04 for the CEDT, HEST and RQSC entry kinds: the bytes the model of the crate serialises are
  the reference encoding of Acpi.Spec.Layout (every caller value at its specification offset,
  nothing else in the structure).  (MCFG, XSDT and GAS entries: `entry_conforms`.)
-/
import Acpi.Lemmas.Builder
import Acpi.Lemmas.SubArrays
namespace Acpi.C04
open Spec Builder

theorem conforms_chbs (c : EArgs) (opts : List Opt) (a : EArgs)
    (hwf : entryWf .chbs c opts = true) (h : buildEntry .chbs c opts = .ok a) :
    layoutOracle .chbs c opts (entryBytes .chbs a) = none :=
  -- after `simp` the two sides differ only inside the `Decidable` instance of the `if`, where `init .chbs c` stays
  conforms_noCalls (fun _ _ => rfl) rfl rfl (by simp [layout]; rfl) hwf h

theorem conforms_rdpas (c : EArgs) (opts : List Opt) (a : EArgs)
    (hwf : entryWf .rdpas c opts = true) (h : buildEntry .rdpas c opts = .ok a) :
    layoutOracle .rdpas c opts (entryBytes .rdpas a) = none := by
  obtain ⟨hb, -, hdf, -, -⟩ := build_unpack hwf h
  simp only [ctorWf, decide_eq_true_eq] at hb
  simp only [ctorPanics, Bool.or_eq_false_iff, decide_eq_false_iff_not, Nat.not_le] at hdf
  refine conforms_noCalls (fun _ _ => rfl) rfl rfl ?_ hwf h
  -- `leN`: the reference writes the record length as the bytes `[16, 0]`, the model as `w16 16`
  simp [layout, bdf_eq_bdfOf _ _ _ hb hdf.1 hdf.2, leN]

theorem conforms_ges (c : EArgs) (opts : List Opt) (a : EArgs)
    (hwf : entryWf .ges c opts = true) (h : buildEntry .ges c opts = .ok a) :
    layoutOracle .ges c opts (entryBytes .ges a) = none := by
  -- the status bits (uncorrectable: bit 0 or 2, correctable: bit 1 or 3) are distinct, so their OR is their sum
  have hst : ∀ x y : Nat, ((if x = 1 then 2 else if 1 < x then 8 else 0) |||
        (if y = 1 then 1 else if 1 < y then 4 else 0)) =
      (if y = 1 then 1 else 0) + (if x = 1 then 2 else 0) +
        (if 1 < y then 4 else 0) + (if 1 < x then 8 else 0) := by
    intro x y
    rcases Nat.lt_trichotomy x 1 with h0 | h0 | h0 <;>
    rcases Nat.lt_trichotomy y 1 with h1 | h1 | h1 <;>
    simp [h0, h1, Nat.ne_of_gt, Nat.ne_of_lt, Nat.not_lt_of_lt] <;> omega
  exact conforms_noCalls (fun _ _ => rfl) rfl rfl (by simp [layout, hst]) hwf h

theorem init_aerrp (c : EArgs) : init .aerrp c =
    { n := #[if c.num 0 ≠ 0 then 2 else c.num 1, if c.num 0 ≠ 0 then 0 else c.num 2,
             if c.num 0 ≠ 0 then 0 else c.num 3, if c.num 0 ≠ 0 then 0 else c.num 4,
             0, 0, 0, 0, 0, 0, 0, 0] } := by
  simp only [init]; split <;> simp [*]

theorem init_aerdev (c : EArgs) : init .aerdev c =
    { n := #[if c.num 0 ≠ 0 then 2 else c.num 1, if c.num 0 ≠ 0 then 0 else c.num 2,
             if c.num 0 ≠ 0 then 0 else c.num 3, if c.num 0 ≠ 0 then 0 else c.num 4,
             0, 0, 0, 0, 0, 0, 0] } := by
  simp only [init]; split <;> simp [*]

theorem init_aerbr (c : EArgs) : init .aerbr c =
    { n := #[if c.num 0 ≠ 0 then 2 else c.num 1, if c.num 0 ≠ 0 then 0 else c.num 2,
             if c.num 0 ≠ 0 then 0 else c.num 3, if c.num 0 ≠ 0 then 0 else c.num 4,
             0, 0, 0, 0, 0, 0, 0, 0, 0, 0] } := by
  simp only [init]; split <;> simp [*]

theorem conforms_aerrp (c : EArgs) (opts : List Opt) (a : EArgs)
    (hwf : entryWf .aerrp c opts = true) (h : buildEntry .aerrp c opts = .ok a) :
    layoutOracle .aerrp c opts (entryBytes .aerrp a) = none :=
  conforms_setOnly (lo := 4) (N := 12) rfl (fun _ _ => rfl) (by rw [init_aerrp]; rfl) (by decide) rfl rfl
    (fun a hnum hun => by rw [init_aerrp] at hnum hun; simp [layout, aerCommon, hnum, hun]) hwf h

theorem conforms_aerdev (c : EArgs) (opts : List Opt) (a : EArgs)
    (hwf : entryWf .aerdev c opts = true) (h : buildEntry .aerdev c opts = .ok a) :
    layoutOracle .aerdev c opts (entryBytes .aerdev a) = none :=
  conforms_setOnly (lo := 4) (N := 11) rfl (fun _ _ => rfl) (by rw [init_aerdev]; rfl) (by decide) rfl rfl
    (fun a hnum hun => by rw [init_aerdev] at hnum hun; simp [layout, aerCommon, hnum, hun]) hwf h

theorem conforms_aerbr (c : EArgs) (opts : List Opt) (a : EArgs)
    (hwf : entryWf .aerbr c opts = true) (h : buildEntry .aerbr c opts = .ok a) :
    layoutOracle .aerbr c opts (entryBytes .aerbr a) = none :=
  conforms_setOnly (lo := 4) (N := 14) rfl (fun _ _ => rfl) (by rw [init_aerbr]; rfl) (by decide) rfl rfl
    (fun a hnum hun => by rw [init_aerbr] at hnum hun; simp [layout, aerCommon, hnum, hun]) hwf h

theorem conforms_notif (c : EArgs) (opts : List Opt) (a : EArgs)
    (hwf : entryWf .notif c opts = true) (h : buildEntry .notif c opts = .ok a) :
    layoutOracle .notif c opts (entryBytes .notif a) = none :=
  conforms_setOnly (lo := 2) (N := 9) rfl (fun _ _ => rfl) rfl (by decide) rfl rfl
    (fun a hnum hun => by simp [layout, hnum, hun]) hwf h

/-! ## GHES, GHESv2: `set`, `gas` on slots 6–10, `notif` on 11–19, `gas2` on 20–24 -/

/-- the `j`-th of the nine values of the notification structure that `notif` stores: its type,
    its own length 28, then the remaining arguments -/
def notifVal (o : Opt) (j : Nat) : Nat := if j = 1 then 28 else o.arg (j - if j = 0 then 0 else 1)

/-- what one call stores in slot `i` -/
def ghesWrite (k : Kind) (o : Opt) (i : Nat) : Option (Nat × Bool) :=
  if o.name = "set" ∧ i ∈ settableSlots k ∧ o.arg 0 = i then some (o.arg 1, false)
  else if o.name = "gas" ∧ 6 ≤ i ∧ i < 11 then some (o.arg (i - 6), false)
  else if o.name = "notif" ∧ 11 ≤ i ∧ i < 20 then some (notifVal o (i - 11), false)
  else if o.name = "gas2" ∧ 20 ≤ i ∧ i < 25 then some (o.arg (i - 20), false)
  else none

theorem ghes_step (s : EArgs) (o : Opt) (s' : EArgs) (hw : optWf .ghes o = true)
    (h : applyOpt .ghes s o = some s') : Writes 20 (ghesWrite .ghes o) s s' := by
  have hn := name_mem h
  obtain ⟨nm, v⟩ := o
  simp only [optNames, List.mem_cons, List.mem_nil_iff, or_false] at hn
  rcases hn with rfl | rfl | rfl
  · obtain rfl := Option.some.inj h
    exact .set (by decide) hw rfl s fun i => by simp [ghesWrite]
  · exact .range (base := 6) (n := 5) (f := Opt.arg ⟨"gas", v⟩) (by omega) (Option.some.inj h)
      fun i => by simp [ghesWrite]
  · exact .range (base := 11) (n := 9) (f := notifVal ⟨"notif", v⟩) (by omega) (Option.some.inj h)
      fun i => by simp [ghesWrite]

theorem conforms_ghes (c : EArgs) (opts : List Opt) (a : EArgs)
    (hwf : entryWf .ghes c opts = true) (h : buildEntry .ghes c opts = .ok a) :
    layoutOracle .ghes c opts (entryBytes .ghes a) = none := by
  obtain ⟨-, hw, -, ha, -⟩ := build_unpack hwf h
  have hnum := slot_writes ghes_step (s := init .ghes c) rfl hw ha
  have hinit := num_writes_zero (N := 20) (ws := [(0, c.num 0, false), (1, c.num 1, false), (12, 28, false)])
    (a := init .ghes c) rfl (by simp) (by simp)
  simp only [hinit] at hnum
  unfold layoutOracle rows
  apply conforms_of_eq
  · rfl
  · -- slot by slot, the calls that write it are those of one name: the fold is `lastVal` or `lastSet`
    simp [layout, ghesCommon, hnum, lookupWrite, ghesWrite, notifVal, upd_ite, foldl_keep, foldl_lastVal,
      foldl_lastSet, foldl_mark, settableSlots]

theorem ghesv2_step (s : EArgs) (o : Opt) (s' : EArgs) (hw : optWf .ghesv2 o = true)
    (h : applyOpt .ghesv2 s o = some s') : Writes 27 (ghesWrite .ghesv2 o) s s' := by
  have hn := name_mem h
  obtain ⟨nm, v⟩ := o
  simp only [optNames, List.mem_cons, List.mem_nil_iff, or_false] at hn
  rcases hn with rfl | rfl | rfl | rfl
  · obtain rfl := Option.some.inj h
    exact .set (by decide) hw rfl s fun i => by simp [ghesWrite]
  · exact .range (base := 6) (n := 5) (f := Opt.arg ⟨"gas", v⟩) (by omega) (Option.some.inj h)
      fun i => by simp [ghesWrite]
  · exact .range (base := 11) (n := 9) (f := notifVal ⟨"notif", v⟩) (by omega) (Option.some.inj h)
      fun i => by simp [ghesWrite]
  · exact .range (base := 20) (n := 5) (f := Opt.arg ⟨"gas2", v⟩) (by omega) (Option.some.inj h)
      fun i => by simp [ghesWrite]

theorem conforms_ghesv2 (c : EArgs) (opts : List Opt) (a : EArgs)
    (hwf : entryWf .ghesv2 c opts = true) (h : buildEntry .ghesv2 c opts = .ok a) :
    layoutOracle .ghesv2 c opts (entryBytes .ghesv2 a) = none := by
  obtain ⟨-, hw, -, ha, -⟩ := build_unpack hwf h
  have hnum := slot_writes ghesv2_step (s := init .ghesv2 c) rfl hw ha
  have hinit := num_writes_zero (N := 27) (ws := [(0, c.num 0, false), (1, c.num 1, false), (12, 28, false)])
    (a := init .ghesv2 c) rfl (by simp) (by simp)
  simp only [hinit] at hnum
  unfold layoutOracle rows
  apply conforms_of_eq
  · rfl
  · simp [layout, ghesCommon, hnum, lookupWrite, ghesWrite, notifVal, upd_ite, foldl_keep, foldl_lastVal,
      foldl_lastSet, foldl_mark, settableSlots]

/-! ## CXIMS (pushed bitmaps) and CFMWS (restriction flags, pushed targets) -/

theorem cxims_slots {opts : List Opt} {s a : EArgs} (h : applyOpts .cxims s opts = .ok a) :
    a.n = s.n ∧ a.b = s.b ∧ a.s.getD 0 [] = s.s.getD 0 [] ++ pushed opts "map" :=
  pushOnly_slots rfl (fun _ _ => rfl) h

theorem conforms_cxims (c : EArgs) (opts : List Opt) (a : EArgs)
    (hwf : entryWf .cxims c opts = true) (h : buildEntry .cxims c opts = .ok a) :
    layoutOracle .cxims c opts (entryBytes .cxims a) = none := by
  obtain ⟨-, -, -, ha, -⟩ := build_unpack hwf h
  obtain ⟨hn, -, hs⟩ := cxims_slots ha
  have hs' : a.s.getD 0 [] = pushed opts "map" := hs
  have hn0 : a.num 0 = c.num 0 := by rw [EArgs.num, hn]; rfl
  unfold layoutOracle rows
  simp only [entryBytes, fields, hs', hn0]
  exact conforms_head_array 8 8 _ _ _ rfl (by simp [layout])

theorem cfmws_step (s : EArgs) (o : Opt) (s' : EArgs) (hs : s.n.size = 7) (_ : optWf .cfmws o = true)
    (h : applyOpt .cfmws s o = some s') :
    s'.n.size = 7 ∧
    s'.b.toList = (if o.name = "target" then s.b.toList ++ [leN 4 (o.arg 0)] else s.b.toList) ∧
    (∀ j, 6 ≠ j → s'.num j = s.num j) ∧
    s'.num 6 = s.num 6 ||| callBits (C11.flagBits .cfmws) o := by
  have hn := name_mem h
  obtain ⟨nm, v⟩ := o
  simp only [optNames, List.mem_cons, List.mem_nil_iff, or_false] at hn
  rcases hn with rfl | rfl | rfl | rfl | rfl | rfl <;>
    (obtain rfl := Option.some.inj h
     simp +contextual [num_orNum, hs, callBits, C11.flagBits])

theorem cfmws_slots {opts : List Opt} {s a : EArgs} (hs : s.n.size = 7)
    (hw : ∀ o ∈ opts, optWf .cfmws o = true) (h : applyOpts .cfmws s opts = .ok a) :
    a.n.size = 7 ∧ a.b.toList = s.b.toList ++ (pushed opts "target").map (leN 4) ∧
    (∀ j, 6 ≠ j → a.num j = s.num j) ∧
    a.num 6 = s.num 6 ||| C11.flagSum opts (C11.flagBits .cfmws) :=
  ⟨slot_inv hs hw h cfmws_step, slot_pushed hs hw h cfmws_step (·.b.toList) "target" (leN 4) (·.1),
   fun j hj => slot_keep hs hw h cfmws_step (·.num j) (·.2.1 j hj),
   slot_flags hs hw h cfmws_step _ (C11.disjoint_flagBits .cfmws) (·.2.2)⟩

/-- serialisation asserts that the interleave-ways code stands for the number of targets pushed -/
theorem cfmws_ways {c a : EArgs} {opts : List Opt} (hwf : entryWf .cfmws c opts = true)
    (h : buildEntry .cfmws c opts = .ok a) : numWays (c.num 4) = (pushed opts "target").length := by
  obtain ⟨-, hw, -, ha, hp⟩ := build_unpack hwf h
  obtain ⟨-, hb, hk, -⟩ := cfmws_slots (s := init .cfmws c) rfl hw ha
  have : numWays (a.num 4) = a.b.size := by simpa [panics] using hp
  rw [hk 4 (by decide), ← Array.length_toList, hb] at this
  simp only [init, Array.toList_empty, List.nil_append, List.length_map] at this
  exact this

theorem conforms_cfmws (c : EArgs) (opts : List Opt) (a : EArgs)
    (hwf : entryWf .cfmws c opts = true) (h : buildEntry .cfmws c opts = .ok a) :
    layoutOracle .cfmws c opts (entryBytes .cfmws a) = none := by
  obtain ⟨-, hw, -, ha, -⟩ := build_unpack hwf h
  obtain ⟨-, hb, hk, h6⟩ := cfmws_slots (s := init .cfmws c) rfl hw ha
  have hb' : a.b.toList = (pushed opts "target").map (leN 4) := hb.trans (List.nil_append _)
  show conforms (36 + 4 * (pushed opts "target").length) (_ ++ arrayRows 36 4 4 (pushed opts "target")) _ = none
  simp only [entryBytes, fields, hb']
  rw [encFields_append, encFields_map_raw, ← List.flatMap_def]
  exact (Lays.append (mid := 36) ⟨rfl, by simp [layout, hk, h6, cfmws_ways hwf h, C11.flagSum, C11.flagBits, Nat.add_assoc]⟩
    (lays_arrayRows 36 4 _)).conforms

/-! ## RQSC QoS controller (resources of variable size) -/

/-- what the Rust types guarantee about one RQSC resource `[rtype, rflags, idkind, a, b]`: for
    the cache, memory and PCI identifiers, Resource ID 1 is a `u32` -/
def qosResWf (t : List Nat) : Prop :=
  (t.getD 2 0 = 0 ∨ t.getD 2 0 = 1 ∨ t.getD 2 0 = 3) → t.getD 3 0 < 2 ^ 32

theorem qosRes_cases (x : Nat) : x = 0 ∨ x = 1 ∨ x = 2 ∨ x = 3 ∨ ∃ m, x = m + 4 := by
  rcases x with _ | _ | _ | _ | m
  · simp
  · simp
  · simp
  · simp
  · right; right; right; right; exact ⟨m, rfl⟩

theorem qosRes_size (o : Nat) (t : List Nat) (b : Bytes) : (qosResRows o t b).1 = qosResLen t b := by
  rcases qosRes_cases (t.getD 2 0) with h | h | h | h | ⟨m, h⟩ <;>
    simp only [qosResRows, qosResLen, qosResPayload, h] <;>
    simp [-List.getD_eq_getElem?_getD, fieldsLen, Fld.width] <;> omega

theorem lays_qosRes (o : Nat) (t : List Nat) (b : Bytes) (hw : qosResWf t) :
    Lays o (o + qosResLen t b) (qosResRows o t b).2 (encFields (qosResFields t b)) := by
  -- `List.getD_eq_getElem?_getD` is kept out of `simp` below so that `t.getD 2 0` stays in the shape
  -- `h8` and `h` have
  -- Resource ID 1 of a cache, memory or PCI identifier: a `u32` in the crate, an 8-byte field in the layout
  have h8 : t.getD 2 0 = 0 ∨ t.getD 2 0 = 1 ∨ t.getD 2 0 = 3 →
      leN 8 (t.getD 3 0) = leN 4 (t.getD 3 0) ++ zeros 4 := fun h => leN_of_lt 4 4 _ (hw h)
  constructor
  · rcases qosRes_cases (t.getD 2 0) with h | h | h | h | ⟨m, h⟩ <;>
      simp only [qosResRows, qosResLen, qosResPayload, h] <;>
      simp [-List.getD_eq_getElem?_getD, fieldsLen, Fld.width, tilesFrom, Row.off, Row.width, res] <;>
      omega
  · rcases qosRes_cases (t.getD 2 0) with h | h | h | h | ⟨m, h⟩ <;>
      simp only [qosResRows, qosResFields, qosResLen, qosResPayload, h] <;>
      simp [-List.getD_eq_getElem?_getD, fieldsLen, Fld.width, render, encFields, Row.bytes, Fld.bytes, res,
        leN_zero, h8, h]
    -- left: the vendor-defined identifier, whose length field is `8 + b.length` on one side,
    -- `7 + (1 + b.length)` on the other
    congr 1; omega

theorem qos_fold (T : Nat → List Nat) (B : Nat → Bytes) (l : List Nat) (p : Nat) (pre : List Row) :
    l.foldl (fun (acc : Nat × List Row) i =>
      let (sz, rs) := qosResRows acc.1 (T i) (B i)
      (acc.1 + sz, acc.2 ++ rs)) (p, pre) =
    (p + (l.map fun i => qosResLen (T i) (B i)).sum,
      pre ++ subRows (fun p i => (qosResRows p (T i) (B i)).2) (fun i => qosResLen (T i) (B i)) p l) := by
  induction l generalizing p pre with
  | nil => simp [subRows]
  | cons i l ih =>
    simp only [List.foldl_cons, List.map_cons, List.sum_cons, subRows]
    have e : qosResRows p (T i) (B i) = (qosResLen (T i) (B i), (qosResRows p (T i) (B i)).2) := by
      rw [← qosRes_size p]
    rw [e, ih]
    simp [Nat.add_assoc]

/-- what the Rust types guarantee about the resources of an RQSC controller (an extra hypothesis
    of `conforms_qosctrl`: `ctorWf .qosctrl` does not state it) -/
def qosCtorWf (c : EArgs) : Prop := ∀ i, i < c.s.length → qosResWf (c.s.getD i [])

theorem rows_qosctrl (c : EArgs) (opts : List Opt) :
    rows .qosctrl c opts =
      some (28 + ((List.range c.s.length).map fun i => qosResLen (c.s.getD i []) (c.blob i)).sum,
        [.num 0 1 (c.num 0), res 1 1,
          .num 2 2 (28 + ((List.range c.s.length).map fun i => qosResLen (c.s.getD i []) (c.blob i)).sum)] ++
        gasRows 4 (c.num 1) (c.num 2) (c.num 3) (c.num 4) (c.num 5) ++
        [.num 16 4 (c.num 6), .num 20 4 (c.num 7), .num 24 2 (c.num 8), .num 26 2 c.s.length] ++
        subRows (fun p i => (qosResRows p (c.s.getD i []) (c.blob i)).2)
          (fun i => qosResLen (c.s.getD i []) (c.blob i)) 28 (List.range c.s.length)) := by
  unfold rows
  rw [qos_fold (fun i => c.s.getD i []) (fun i => c.blob i)]
  simp

/-- EXTRA HYPOTHESIS `hres` (not part of `entryWf`): Resource ID 1 of cache, memory and PCI
    resources is a `u32` in the crate; the reference layout places an 8-byte value there. -/
theorem conforms_qosctrl (c : EArgs) (opts : List Opt) (a : EArgs)
    (hwf : entryWf .qosctrl c opts = true) (hres : qosCtorWf c) (h : buildEntry .qosctrl c opts = .ok a) :
    layoutOracle .qosctrl c opts (entryBytes .qosctrl a) = none := by
  obtain ⟨rfl, ha⟩ := build_noCalls (fun _ _ => rfl) h
  rw [show a = c from ha, layoutOracle, rows_qosctrl]
  simp only [entryBytes, fields]
  rw [encFields_append]
  exact (Lays.append (mid := 28) ⟨rfl, by simp [layout]⟩
    (lays_subRows _ _ (fun i => qosResFields (c.s.getD i []) (c.blob i)) _
      (fun o i hi => lays_qosRes o _ _ (hres i (List.mem_range.mp hi))) 28)).conforms

def qosctrlCex : EArgs := { n := #[0, 0, 0, 0, 0, 0, 0, 0, 0], b := #[[]], s := [[0, 0, 0, 4294967296, 0]] }

/-- `hres` cannot be dropped: a cache resource whose Resource ID 1 is `2^32` meets `entryWf`,
    builds, and the model's bytes (the `u32` cast drops the value) differ from the reference
    encoding (an 8-byte field holding `2^32`). -/
theorem qosctrl_needs_hres : entryWf .qosctrl qosctrlCex [] = true ∧
    buildEntry .qosctrl qosctrlCex [] = .ok qosctrlCex ∧
    (layoutOracle .qosctrl qosctrlCex [] (entryBytes .qosctrl qosctrlCex)).isSome = true :=
  ⟨by decide, by rfl, by decide⟩

end Acpi.C04
