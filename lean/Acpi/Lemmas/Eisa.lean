/-
  Acpi.Lemmas.Eisa — what C16 and the C06 bridge rest on.

  * an `Option` `do` block succeeds iff each step does (`bind_isSome_iff`, `mapM_id_eq_some_iff`);
  * `x ||| y = x + y` on disjoint bit ranges, hence `u32::swap_bytes` and the shift-and-or of
    `EISAName::new` with `/` and `%`;
  * `to_digit(16)` returns the specification's `hexVal`; two digits make a byte (`nibbles`);
  * `EISAName::new` computes `Spec.Eisa.compress`, which `decompress` inverts;
  * `Uuid::new` is a map of `hex2byte` over the pair table `uuidPairs`.
-/
import Acpi.Aml.Eisa
import Acpi.Spec.Eisa
import Acpi.Lemmas.Basic
namespace Acpi.C16

/-- ASCII view of a character list (the UTF-8 bytes of an ASCII string) -/
def asciiBytes (cs : List Char) : Bytes := cs.map (fun c => UInt8.ofNat c.toNat)

end Acpi.C16

namespace Acpi.Lemmas.Eisa
open Acpi.Spec.Eisa C16

/-- One step of a `do` block: it succeeds iff this step does and the rest does, provided whether
    the rest succeeds does not depend on the value bound here. -/
theorem bind_isSome_iff {α β : Type} {x : Option α} {f : α → Option β} {P : Prop}
    (h : ∀ a, (f a).isSome ↔ P) : (x.bind f).isSome ↔ x.isSome ∧ P := by
  cases x
  · exact ⟨(fun h' => nomatch h'), fun h' => nomatch h'.1⟩
  · exact (h _).trans ⟨fun p => ⟨rfl, p⟩, fun p => p.2⟩

theorem mapM_id_eq_some_iff {α : Type} : ∀ (l : List (Option α)) (b : List α),
    l.mapM id = some b ↔ l = b.map some
  | [], b => by cases b <;> simp
  | none :: as, b => by cases b <;> simp [List.mapM_cons]
  | some x :: as, [] => by simp [List.mapM_cons, Option.bind_eq_some_iff]
  | some x :: as, y :: ys => by
    simp only [List.mapM_cons, id, Option.bind_eq_bind, Option.bind_some, Option.pure_def,
      Option.bind_eq_some_iff, Option.some.injEq, List.cons.injEq, List.map_cons, mapM_id_eq_some_iff as]
    exact ⟨fun ⟨_, hr, e1, e2⟩ => ⟨e1, e2 ▸ hr⟩, fun ⟨e1, e2⟩ => ⟨ys, e2, e1, rfl⟩⟩

/-- Appending a `k`-bit field below a value: `|||` is `+`, and the width grows by `k`. Folding it
    along a shift-and-or chain gives the chain's value in Horner form without large literals. -/
theorem or_cat {x y i k : Nat} (hx : x < 2 ^ i) (hy : y < 2 ^ k) :
    x <<< k ||| y = x * 2 ^ k + y ∧ x * 2 ^ k + y < 2 ^ (i + k) := by
  rw [shiftLeft_or x y k hy]
  refine ⟨rfl, ?_⟩
  calc x * 2 ^ k + y < x * 2 ^ k + 2 ^ k := Nat.add_lt_add_left hy _
    _ = (x + 1) * 2 ^ k := (Nat.succ_mul ..).symm
    _ ≤ 2 ^ i * 2 ^ k := Nat.mul_le_mul_right _ hx
    _ = 2 ^ (i + k) := (Nat.pow_add ..).symm

theorem and_ff00 (x : Nat) : x &&& 0xFF00 = (x / 256 % 256) <<< 8 := by
  apply Nat.eq_of_testBit_eq
  intro i
  have e1 : (0xFF00 : Nat) = (2^8 - 1) <<< 8 := by decide
  have e2 : (256:Nat) = 2^8 := by decide
  rw [Nat.testBit_and, e1, Nat.testBit_shiftLeft, Nat.testBit_two_pow_sub_one, e2,
    Nat.testBit_shiftLeft, Nat.testBit_mod_two_pow, Nat.testBit_div_two_pow]
  by_cases h : 8 ≤ i
  · have : i - 8 + 8 = i := by omega
    simp [h, this]
    exact Bool.and_comm _ _
  · simp [h]

/-- `u32::swap_bytes`: byte k of the argument becomes byte 3-k of the result. -/
theorem swapBytes_toNat (x : UInt32) :
    (swapBytes x).toNat = ((x.toNat % 256 * 256 + x.toNat / 256 % 256) * 256 + x.toNat / 65536 % 256) * 256
      + x.toNat / 16777216 := by
  have hx := x.toNat_lt
  have h3 : x.toNat / 16777216 < 2 ^ 8 := by omega
  unfold swapBytes
  simp only [UInt32.toNat_or, UInt32.toNat_shiftLeft, UInt32.toNat_and, UInt32.toNat_shiftRight,
    UInt32.reduceToNat, Nat.reduceMod]
  rw [show (255 : Nat) = 2 ^ 8 - 1 from rfl, Nat.and_two_pow_sub_one_eq_mod, and_ff00, and_ff00,
    Nat.shiftRight_eq_div_pow, Nat.shiftRight_eq_div_pow, Nat.div_div_eq_div_mul]
  simp only [Nat.reducePow, Nat.reduceMul]
  rw [Nat.mod_eq_of_lt (by omega : (x.toNat % 256) <<< 24 < 4294967296),
    Nat.mod_eq_of_lt (by omega : (x.toNat / 256 % 256) <<< 8 <<< 8 < 4294967296)]
  obtain ⟨e1, l1⟩ := or_cat (i := 8) (k := 8) (Nat.mod_lt x.toNat (by decide)) (Nat.mod_lt (x.toNat / 256) (by decide))
  obtain ⟨e2, l2⟩ := or_cat (k := 8) l1 (Nat.mod_lt (x.toNat / 65536) (by decide))
  obtain ⟨e3, _⟩ := or_cat (k := 8) l2 h3
  rw [← e3, ← e2, ← e1]
  simp only [Nat.shiftLeft_or_distrib, ← Nat.shiftLeft_add, Nat.reduceAdd]

/-- the shift-and-or chain of `EISAName::new` (before `swap_bytes`), in Horner form -/
theorem pack_toNat (a b c e f g h : UInt32) (ha : a.toNat < 32) (hb : b.toNat < 32) (hc : c.toNat < 32)
    (he : e.toNat < 16) (hf : f.toNat < 16) (hg : g.toNat < 16) (hh : h.toNat < 16) :
    ((a <<< 26) ||| (b <<< 21) ||| (c <<< 16) ||| (e <<< 12) ||| (f <<< 8) ||| (g <<< 4) ||| h).toNat
      = (((((a.toNat * 32 + b.toNat) * 32 + c.toNat) * 16 + e.toNat) * 16 + f.toNat) * 16 + g.toNat) * 16
        + h.toNat := by
  simp only [UInt32.toNat_or, UInt32.toNat_shiftLeft, UInt32.reduceToNat, Nat.reduceMod]
  -- no shifted field leaves the 32-bit word
  rw [Nat.mod_eq_of_lt (by omega : a.toNat <<< 26 < 2 ^ 32), Nat.mod_eq_of_lt (by omega : b.toNat <<< 21 < 2 ^ 32),
    Nat.mod_eq_of_lt (by omega : c.toNat <<< 16 < 2 ^ 32), Nat.mod_eq_of_lt (by omega : e.toNat <<< 12 < 2 ^ 32),
    Nat.mod_eq_of_lt (by omega : f.toNat <<< 8 < 2 ^ 32), Nat.mod_eq_of_lt (by omega : g.toNat <<< 4 < 2 ^ 32)]
  obtain ⟨e1, l1⟩ := or_cat (i := 5) (k := 5) ha hb
  obtain ⟨e2, l2⟩ := or_cat (k := 5) l1 hc
  obtain ⟨e3, l3⟩ := or_cat (k := 4) l2 he
  obtain ⟨e4, l4⟩ := or_cat (k := 4) l3 hf
  obtain ⟨e5, l5⟩ := or_cat (k := 4) l4 hg
  obtain ⟨e6, _⟩ := or_cat (k := 4) l5 hh
  rw [← e6, ← e5, ← e4, ← e3, ← e2, ← e1]
  simp only [Nat.shiftLeft_or_distrib, ← Nat.shiftLeft_add, Nat.reduceAdd]

theorem bytes_of_le_sum (s r q p : Nat) (hs : s < 256) (hr : r < 256) (hq : q < 256) (v : Nat)
    (hv : v = s + 256 * r + 65536 * q + 16777216 * p) :
    v % 256 = s ∧ v / 256 % 256 = r ∧ v / 65536 % 256 = q ∧ v / 16777216 = p := by
  omega

/-- the four bytes (low to high) of the packed value -/
theorem packed_bytes (a b c e f g h : Nat) (hc : c < 32) (he : e < 16)
    (hf : f < 16) (hg : g < 16) (hh : h < 16) (n : Nat)
    (hn : n = (((((a * 32 + b) * 32 + c) * 16 + e) * 16 + f) * 16 + g) * 16 + h) :
    n % 256 = g * 16 + h ∧ n / 256 % 256 = e * 16 + f ∧ n / 65536 % 256 = (b % 8) * 32 + c ∧
      n / 16777216 = a * 4 + b / 8 := by
  subst hn
  exact bytes_of_le_sum (g * 16 + h) (e * 16 + f) (b % 8 * 32 + c) (a * 4 + b / 8) (by omega) (by omega) (by omega) _
    (by omega)

-- a lemma of its own so that `omega` sees only the three letter bounds
theorem unpack_letters (a b c : Nat) (ha : a < 32) (hb : b < 32) (hc : c < 32) (s r : Nat)
    (hs : s = a * 4 + b / 8) (hr : r = (b % 8) * 32 + c) :
    s / 4 % 32 = a ∧ (s % 4) * 8 + r / 32 = b ∧ r % 32 = c := by
  omega

/-- `to_digit(16)` returns the specification's `hexVal` (the three branches coincide), a nybble. -/
theorem toDigit16_val (c : Char) (d : UInt32) (h : toDigit16 c = some d) :
    d.toNat = hexVal c ∧ d.toNat < 16 := by
  have sub (k : Char) (hk : k ≤ c) : (c.val - k.val).toNat = c.toNat - k.toNat :=
    UInt32.toNat_sub_of_le _ _ (Char.le_def.mp hk)
  have nat (a b : Char) (hab : a ≤ c ∧ c ≤ b) : a.toNat ≤ c.toNat ∧ c.toNat ≤ b.toNat :=
    ⟨UInt32.le_iff_toNat_le.mp hab.1, UInt32.le_iff_toNat_le.mp hab.2⟩
  unfold toDigit16 at h
  unfold hexVal
  split at h
  · next h1 =>
    cases h
    have := nat _ _ h1
    rw [if_pos h1, sub _ h1.1]
    refine ⟨rfl, ?_⟩
    simp only [Char.reduceToNat] at this ⊢; omega
  · next h1 =>
    rw [if_neg h1]
    split at h
    · next h2 =>
      cases h
      have := nat _ _ h2
      rw [if_pos h2, UInt32.toNat_add, sub _ h2.1]
      simp only [Char.reduceToNat, UInt32.reduceToNat] at this ⊢; omega
    · next h2 =>
      rw [if_neg h2]
      split at h
      · next h3 =>
        cases h
        have := nat _ _ h3
        rw [UInt32.toNat_add, sub _ h3.1]
        simp only [Char.reduceToNat, UInt32.reduceToNat] at this ⊢; omega
      · cases h

theorem toDigit16_of_isSome {c : Char} (h : (toDigit16 c).isSome) :
    ∃ x, toDigit16 c = some x ∧ x.toNat = hexVal c ∧ x.toNat < 16 :=
  let ⟨x, hx⟩ := Option.isSome_iff_exists.mp h
  ⟨x, hx, toDigit16_val c x hx⟩

theorem nibbles (hi lo : UInt32) (hh : hi.toNat < 16) (hl : lo.toNat < 16) :
    (hi.toUInt8 <<< 4) ||| lo.toUInt8 = UInt8.ofNat (16 * hi.toNat + lo.toNat) := by
  have : ∀ a < 16, ∀ b < 16,
      ((UInt32.ofNat a).toUInt8 <<< 4) ||| (UInt32.ofNat b).toUInt8 = UInt8.ofNat (16 * a + b) := by
    decide +kernel
  rw [← this _ hh _ hl, UInt32.ofNat_toNat, UInt32.ofNat_toNat]

theorem hex2byte_isSome_iff (c1 c2 : Char) :
    (hex2byte c1 c2).isSome ↔ (toDigit16 c1).isSome ∧ (toDigit16 c2).isSome := by
  unfold hex2byte
  refine bind_isSome_iff fun _ => ?_
  cases toDigit16 c2 <;> exact Iff.rfl

theorem hex2byte_val {c1 c2 : Char} (h1 : (toDigit16 c1).isSome) (h2 : (toDigit16 c2).isSome) :
    hex2byte c1 c2 = some (UInt8.ofNat (16 * hexVal c1 + hexVal c2)) := by
  obtain ⟨x1, e1, v1, b1⟩ := toDigit16_of_isSome h1
  obtain ⟨x2, e2, v2, b2⟩ := toDigit16_of_isSome h2
  unfold hex2byte
  rw [e1, e2, ← v1, ← v2, ← nibbles x1 x2 b1 b2]
  rfl

theorem subBase_isSome_iff (b : UInt8) : (subBase b).isSome ↔ 0x40 ≤ b := by
  unfold subBase
  split
  · next h => exact ⟨(fun h' => nomatch h'), fun h' => absurd h (UInt8.not_lt.mpr h')⟩
  · next h => exact ⟨fun _ => UInt8.not_lt.mp h, fun _ => rfl⟩

theorem subBase_ofNat (n : Nat) (h : 64 ≤ n ∧ n < 96) :
    ∃ x, subBase (UInt8.ofNat n) = some x ∧ x.toNat = n - 64 ∧ x.toNat < 32 := by
  have e : (UInt8.ofNat n).toNat = n := UInt8.toNat_ofNat_of_lt' (Nat.lt_trans h.2 (by decide))
  have hle : (0x40 : UInt8) ≤ UInt8.ofNat n := UInt8.le_iff_toNat_le.mpr (by rw [e]; exact h.1)
  refine ⟨_, if_neg (UInt8.not_lt.mpr hle), ?_⟩
  rw [UInt8.toNat_toUInt32, UInt8.toNat_sub_of_le _ _ hle, e]
  exact ⟨rfl, by show n - 64 < 32; omega⟩

/-- `EISAName::new` on seven characters, the first three in `'@'..'_'` (so that `- 0x40` fits five
    bits) and the rest hex digits, returns the specification's compressed id. -/
theorem eisaValue_compress (c0 c1 c2 c3 c4 c5 c6 : Char)
    (h0 : 64 ≤ c0.toNat ∧ c0.toNat < 96) (h1 : 64 ≤ c1.toNat ∧ c1.toNat < 96)
    (h2 : 64 ≤ c2.toNat ∧ c2.toNat < 96) (h3 : (toDigit16 c3).isSome) (h4 : (toDigit16 c4).isSome)
    (h5 : (toDigit16 c5).isSome) (h6 : (toDigit16 c6).isSome) :
    ∃ v, eisaValue (asciiBytes [c0, c1, c2, c3, c4, c5, c6]) [c0, c1, c2, c3, c4, c5, c6]
      = some v ∧ v.toNat = compress [c0, c1, c2, c3, c4, c5, c6] := by
  obtain ⟨x0, e0, v0, b0⟩ := subBase_ofNat _ h0
  obtain ⟨x1, e1, v1, b1⟩ := subBase_ofNat _ h1
  obtain ⟨x2, e2, v2, b2⟩ := subBase_ofNat _ h2
  obtain ⟨x3, e3, v3, b3⟩ := toDigit16_of_isSome h3
  obtain ⟨x4, e4, v4, b4⟩ := toDigit16_of_isSome h4
  obtain ⟨x5, e5, v5, b5⟩ := toDigit16_of_isSome h5
  obtain ⟨x6, e6, v6, b6⟩ := toDigit16_of_isSome h6
  unfold eisaValue asciiBytes
  rw [if_neg (fun h => h rfl)]
  simp only [List.map_cons, List.getElem!_cons_zero, List.getElem!_cons_succ, List.getElem?_cons_zero,
    List.getElem?_cons_succ, e0, e1, e2, e3, e4, e5, e6, Option.bind_some, Option.bind_eq_bind]
  refine ⟨_, rfl, ?_⟩
  obtain ⟨n0, n1, n2, n3⟩ := packed_bytes _ _ _ _ _ _ _ b2 b3 b4 b5 b6 _
    (pack_toNat x0 x1 x2 x3 x4 x5 x6 b0 b1 b2 b3 b4 b5 b6)
  rw [swapBytes_toNat, n0, n1, n2, n3]
  unfold compress
  simp only [List.getD_cons_zero, List.getD_cons_succ, ← v0, ← v1, ← v2, ← v3, ← v4, ← v5, ← v6]
  omega

theorem decompress_fields (a b c e f g h : Nat) (ha : a < 32) (hb : b < 32) (hc : c < 32) (he : e < 16)
    (hf : f < 16) (hg : g < 16) (hh : h < 16) :
    decompress (a * 4 + b / 8 + 256 * (b % 8 * 32 + c) + 65536 * (e * 16 + f) + 16777216 * (g * 16 + h)) =
      [Char.ofNat (64 + a), Char.ofNat (64 + b), Char.ofNat (64 + c), hexUpper e, hexUpper f, hexUpper g,
        hexUpper h] := by
  have nyb (x y : Nat) (hy : y < 16) : (x * 16 + y) / 16 = x ∧ (x * 16 + y) % 16 = y := by omega
  have m : (g * 16 + h) % 256 = g * 16 + h := Nat.mod_eq_of_lt (by omega)
  obtain ⟨l1, l2, l3⟩ := unpack_letters a b c ha hb hc _ _ rfl rfl
  obtain ⟨v0, v1, v2, v3⟩ := bytes_of_le_sum (a * 4 + b / 8) (b % 8 * 32 + c) (e * 16 + f) (g * 16 + h)
    (by omega) (by omega) (by omega) _ rfl
  unfold decompress
  simp only [v0, v1, v2, v3, l1, l3, m, nyb e f hf, nyb g h hh]
  rw [Nat.add_assoc 64, l2]

/-- the specification's decompression inverts its compression (digits come back upper-case) -/
theorem decompress_compress (c0 c1 c2 c3 c4 c5 c6 : Char)
    (h0 : 64 ≤ c0.toNat ∧ c0.toNat < 96) (h1 : 64 ≤ c1.toNat ∧ c1.toNat < 96)
    (h2 : 64 ≤ c2.toNat ∧ c2.toNat < 96) (h3 : hexVal c3 < 16) (h4 : hexVal c4 < 16)
    (h5 : hexVal c5 < 16) (h6 : hexVal c6 < 16) :
    decompress (compress [c0, c1, c2, c3, c4, c5, c6]) =
      [c0, c1, c2, hexUpper (hexVal c3), hexUpper (hexVal c4), hexUpper (hexVal c5), hexUpper (hexVal c6)] := by
  have e (c : Char) (h : 64 ≤ c.toNat ∧ c.toNat < 96) : Char.ofNat (64 + (c.toNat - 64)) = c := by
    rw [show 64 + (c.toNat - 64) = c.toNat by omega, Char.ofNat_toNat]
  unfold compress
  simp only [List.getD_cons_zero, List.getD_cons_succ]
  rw [decompress_fields _ _ _ _ _ _ _ (by omega) (by omega) (by omega) h3 h4 h5 h6, e _ h0, e _ h1, e _ h2]

/-- the index pairs read by `Uuid::new`, in buffer order -/
def uuidPairs : List (Nat × Nat) :=
  [(6, 7), (4, 5), (2, 3), (0, 1), (11, 12), (9, 10), (16, 17), (14, 15), (19, 20), (21, 22),
   (24, 25), (26, 27), (28, 29), (30, 31), (32, 33), (34, 35)]

/-- every non-dash position below 36 is read by some pair -/
theorem uuidPairs_cover : ∀ k : Fin 36, (k.val ≠ 8 ∧ k.val ≠ 13 ∧ k.val ≠ 18 ∧ k.val ≠ 23) →
    ∃ p ∈ uuidPairs, p.1 = k.val ∨ p.2 = k.val := by decide +kernel

/-- each pair reads two adjacent digit positions -/
theorem uuidPairs_ok : ∀ p ∈ uuidPairs, p.1 < 36 ∧ p.2 < 36 ∧ p.2 = p.1 + 1 ∧
    ¬ (p.1 = 8 ∨ p.1 = 13 ∨ p.1 = 18 ∨ p.1 = 23) ∧ ¬ (p.2 = 8 ∨ p.2 = 13 ∨ p.2 = 18 ∨ p.2 = 23) := by
  decide

theorem getElem!_eq_getD (cs : List Char) (i : Nat) (h : i < cs.length) (d : Char) : cs[i]! = cs.getD i d := by
  simp only [List.getD_eq_getElem?_getD, List.getElem?_eq_getElem h, Option.getD_some, getElem!_pos cs i h]

theorem uuidBytes_eq_some_iff_pairs (cs : List Char) (b : Bytes) :
    uuidBytes cs = some b ↔ cs.length = 36 ∧
      (cs[8]! = '-' ∧ cs[13]! = '-' ∧ cs[18]! = '-' ∧ cs[23]! = '-') ∧
      uuidPairs.map (fun p => hex2byte cs[p.1]! cs[p.2]!) = b.map some := by
  rw [← mapM_id_eq_some_iff]
  unfold uuidBytes
  by_cases hl : cs.length = 36
  · rw [if_neg (fun h => h hl)]
    by_cases hd : cs[8]! ≠ '-' ∨ cs[13]! ≠ '-' ∨ cs[18]! ≠ '-' ∨ cs[23]! ≠ '-'
    · rw [if_pos hd]
      refine ⟨(fun h => nomatch h), fun ⟨_, ⟨h8, h13, h18, h23⟩, _⟩ => ?_⟩
      rcases hd with h | h | h | h <;> contradiction
    · rw [if_neg hd]
      simp only [not_or, Decidable.not_not] at hd
      simp only [hl, hd, and_self, true_and]; rfl
  · rw [if_pos hl]
    exact ⟨(fun h => nomatch h), fun h => absurd h.1 hl⟩

end Acpi.Lemmas.Eisa
