/-
  C04 for the RHCT (isa, hart), RIMT (iommu, pcierc, platform, idmap, wire) and VIOT (pcirange,
  pciiommu) entries: the bytes the model serialises are the reference encoding of
  Acpi.Spec.Layout.  (cmo, mmu, mmioep, mmioiommu need nothing beyond their rows: `entry_conforms`.)
-/
import Acpi.Lemmas.Builder
import Acpi.Lemmas.SubArrays
namespace Acpi.C04
open Spec Builder

/-! ### RIMT sub-structures -/

theorem lays_idmapRows (o : Nat) (t : List Nat) : Lays o (o + 20) (idmapRows o t) (encFields (idmapFields t)) := by
  constructor
  · simp [idmapRows, tilesFrom, Row.off, Row.width, Nat.add_assoc]
  · simp only [idmapRows, idmapFields, or3_eq_add]
    simp [render, encFields, Row.bytes, Fld.bytes]

theorem lays_wireRows (o : Nat) (t : List Nat) : Lays o (o + 8) (wireRows o t) (encFields (wireFields t)) := by
  constructor
  · simp [wireRows, tilesFrom, Row.off, Row.width, Nat.add_assoc]
  · simp only [wireRows, wireFields, or2_eq_add]
    simp [render, encFields, Row.bytes, Fld.bytes]

theorem conforms_idmap (c : EArgs) (opts : List Opt) (a : EArgs)
    (hwf : entryWf .idmap c opts = true) (h : buildEntry .idmap c opts = .ok a) :
    layoutOracle .idmap c opts (entryBytes .idmap a) = none :=
  conforms_noCalls (k := .idmap) (c := c) (fun _ _ => rfl) rfl
    (lays_idmapRows 0 _).1 (lays_idmapRows 0 _).2 hwf h

theorem conforms_wire (c : EArgs) (opts : List Opt) (a : EArgs)
    (hwf : entryWf .wire c opts = true) (h : buildEntry .wire c opts = .ok a) :
    layoutOracle .wire c opts (entryBytes .wire a) = none :=
  conforms_noCalls (k := .wire) (c := c) (fun _ _ => rfl) rfl
    (lays_wireRows 0 _).1 (lays_wireRows 0 _).2 hwf h

/-! ### VIOT PCI entries: `(bus << 8) | (device << 3) | function` under the constructor's asserts -/

theorem conforms_pciiommu (c : EArgs) (opts : List Opt) (a : EArgs)
    (hwf : entryWf .pciiommu c opts = true) (h : buildEntry .pciiommu c opts = .ok a) :
    layoutOracle .pciiommu c opts (entryBytes .pciiommu a) = none := by
  obtain ⟨hb, -, hc, -, -⟩ := build_unpack hwf h
  simp only [ctorWf, decide_eq_true_eq] at hb
  simp only [ctorPanics, Bool.or_eq_false_iff, decide_eq_false_iff_not, Nat.not_le] at hc
  exact conforms_noCalls (fun _ _ => rfl) rfl rfl
    (by simp [layout, bdf_eq_bdfOf _ _ _ hb hc.1 hc.2]) hwf h

theorem conforms_pcirange (c : EArgs) (opts : List Opt) (a : EArgs)
    (hwf : entryWf .pcirange c opts = true) (h : buildEntry .pcirange c opts = .ok a) :
    layoutOracle .pcirange c opts (entryBytes .pcirange a) = none := by
  obtain ⟨hb, -, hc, -, -⟩ := build_unpack hwf h
  simp only [ctorWf, Bool.and_eq_true, decide_eq_true_eq] at hb
  simp only [ctorPanics, Bool.or_eq_false_iff, decide_eq_false_iff_not, Nat.not_le] at hc
  exact conforms_noCalls (fun _ _ => rfl) rfl rfl
    (by simp [layout, bdf_eq_bdfOf _ _ _ hb.1 hc.1.1.1 hc.1.1.2, bdf_eq_bdfOf _ _ _ hb.2 hc.1.2 hc.2]) hwf h

/-! ### RHCT ISA string node -/

theorem conforms_isa (c : EArgs) (opts : List Opt) (a : EArgs)
    (hwf : entryWf .isa c opts = true) (h : buildEntry .isa c opts = .ok a) :
    layoutOracle .isa c opts (entryBytes .isa a) = none := by
  have hp := (buildEntry_ok h).2.2
  obtain ⟨rfl, ha⟩ := build_noCalls (fun _ _ => rfl) h
  rw [show a = c from ha] at hp ⊢
  simp only [panics, decide_eq_false_iff_not, Nat.not_lt] at hp
  unfold layoutOracle rows entryBytes fields
  simp only []   -- reduces `match Kind.isa with …` and the `have`s of `rows` and `fields`
  generalize hl0 : (c.blob 0).length = l at hp ⊢
  -- serialisation refuses a node longer than 65535 bytes, of which 9 or 10 are head, terminator and padding
  have hl : l ≤ 65526 := by split at hp <;> omega
  have h1 : l % 65536 = l := Nat.mod_eq_of_lt (by omega)
  have h2 : (l + 1) % 65536 = l + 1 := Nat.mod_eq_of_lt (by omega)
  rw [h1, h2]
  -- the string with its terminator is padded to even length: one or two zero bytes
  rcases Nat.mod_two_eq_zero_or_one l with he | he
  · have e1 : ¬ ((9 + l) % 2 = 0) := by omega
    have e2 : ¬ ((8 + l + 1) % 2 = 0) := by omega
    have e3 : (l + 1) % 2 = 1 := by omega
    have e4 : 10 + l - 8 - l = 2 := by omega
    have e5 : 8 + l + 2 = 10 + l := by omega
    simp only [if_neg e1, if_neg e2, if_pos e3, e4, e5]
    apply conforms_of_eq
    · simp [tilesFrom, Row.off, Row.width, res, hl0]; omega
    · simp [layout]
  · have e1 : (9 + l) % 2 = 0 := by omega
    have e2 : (8 + l + 1) % 2 = 0 := by omega
    have e3 : ¬ ((l + 1) % 2 = 1) := by omega
    have e4 : 9 + l - 8 - l = 1 := by omega
    have e5 : 8 + l + 1 = 9 + l := by omega
    simp only [if_pos e1, if_neg e3, e4, e5]
    apply conforms_of_eq
    · simp [tilesFrom, Row.off, Row.width, res, hl0]; omega
    · simp [layout]

/-! ### RHCT hart info node (pushes CMO/MMU handles) -/

theorem hart_slots {opts : List Opt} {s a : EArgs} (h : applyOpts .hart s opts = .ok a) :
    a.n = s.n ∧ a.b = s.b ∧ a.s.getD 0 [] = s.s.getD 0 [] ++ pushed opts "cmo" :=
  pushOnly_slots rfl (fun _ _ => rfl) h

theorem conforms_hart (c : EArgs) (opts : List Opt) (a : EArgs)
    (hwf : entryWf .hart c opts = true) (h : buildEntry .hart c opts = .ok a) :
    layoutOracle .hart c opts (entryBytes .hart a) = none := by
  obtain ⟨-, -, -, ha, -⟩ := build_unpack hwf h
  obtain ⟨hn, -, hs⟩ := hart_slots ha
  have hs' : a.s.getD 0 [] = c.num 1 :: pushed opts "cmo" := hs
  have hn0 : a.num 0 = c.num 0 := by rw [EArgs.num, hn]; rfl
  simp only [layoutOracle, rows, entryBytes, fields, hn0, hs']
  exact conforms_head_array 12 4 _ _ _ rfl (by simp [layout])

/-! ### RIMT nodes with sub-structure arrays (taken or left out by the constructor: `n 10`, `n 4`, `n 1`) -/

theorem conforms_iommu (c : EArgs) (opts : List Opt) (a : EArgs)
    (hwf : entryWf .iommu c opts = true) (h : buildEntry .iommu c opts = .ok a) :
    layoutOracle .iommu c opts (entryBytes .iommu a) = none := by
  obtain ⟨hb, -, hc, -, -⟩ := build_unpack hwf h
  obtain ⟨rfl, ha⟩ := build_noCalls (fun _ _ => rfl) h
  rw [show a = c from ha]
  simp only [ctorWf, decide_eq_true_eq] at hb
  simp only [ctorPanics, Bool.and_eq_false_iff, Bool.or_eq_false_iff, decide_eq_false_iff_not, Nat.not_le] at hc
  have hbdf : (if c.num 3 ≠ 0 then bdf (c.num 5) (c.num 6) (c.num 7) else 0) =
      (if c.num 3 ≠ 0 then bdfOf (c.num 5) (c.num 6) (c.num 7) else 0) := by
    by_cases h3 : c.num 3 ≠ 0
    · rw [if_pos h3, if_pos h3]
      rcases hc with hc | hc
      · exact absurd h3 hc
      · exact bdf_eq_bdfOf _ _ _ hb hc.1 hc.2
    · rw [if_neg h3, if_neg h3]
  simp only [layoutOracle, rows, entryBytes, fields, hbdf, or2_eq_add, ite_length, ite_flatMap, encFields_append]
  exact (Lays.append (mid := 32) ⟨rfl, by simp [layout]⟩
    (lays_strideRows wireRows 8 wireFields lays_wireRows _ 32)).conforms

theorem conforms_pcierc (c : EArgs) (opts : List Opt) (a : EArgs)
    (hwf : entryWf .pcierc c opts = true) (h : buildEntry .pcierc c opts = .ok a) :
    layoutOracle .pcierc c opts (entryBytes .pcierc a) = none := by
  obtain ⟨rfl, ha⟩ := build_noCalls (fun _ _ => rfl) h
  rw [show a = c from ha]
  simp only [layoutOracle, rows, entryBytes, fields, or2_eq_add, ite_length, ite_flatMap, encFields_append]
  exact (Lays.append (mid := 16) ⟨rfl, by simp [layout]⟩
    (lays_strideRows idmapRows 20 idmapFields lays_idmapRows _ 16)).conforms

theorem conforms_platform (c : EArgs) (opts : List Opt) (a : EArgs)
    (hwf : entryWf .platform c opts = true) (h : buildEntry .platform c opts = .ok a) :
    layoutOracle .platform c opts (entryBytes .platform a) = none := by
  obtain ⟨rfl, ha⟩ := build_noCalls (fun _ _ => rfl) h
  rw [show a = c from ha]
  have e1 : 12 + (c.blob 0).length + 1 = 13 + (c.blob 0).length := by omega
  simp only [layoutOracle, rows, entryBytes, fields, e1, ite_length, ite_flatMap, encFields_append]
  refine (Lays.append (mid := 13 + (c.blob 0).length) ⟨?_, by simp [layout]⟩
    (lays_strideRows idmapRows 20 idmapFields lays_idmapRows _ _)).conforms
  simp [tilesFrom, Row.off, Row.width, res]
  omega

end Acpi.C04
