/-
  C04/C11 for the TCPA server table: every builder call acts on the 20 state slots as
  `tcpasWrite` says; the image is the reference encoding of `tcpasRows`.
-/
import Acpi.Lemmas.FixedRows
import Acpi.Lemmas.Header
import Acpi.Lemmas.LayoutMadt
namespace Acpi.C04
open Spec Acpi.C04.Madt

macro "tcpas_slot" hn:ident hs:ident i:ident : tactic =>
  `(tactic| (refine ⟨by simp [$hs:ident], ?_⟩; intro $i:ident; unfold tcpasWrite;
             simp only [$hn:ident, num_setNum, size_setNum, num_orNum, size_orNum, $hs:ident]))

theorem tcpas_apply (a a' : EArgs) (o : Opt) (h : Tcpas.applyOp a o = some a') :
    Writes 20 (tcpasWrite · o) a a' := by
  unfold Tcpas.applyOp at h
  dsimp only at h
  split at h
  case h_1 hn =>  -- "logarea"
    obtain rfl := Option.some.inj h
    exact ⟨[(0, o.arg 0, false), (1, o.arg 1, false)], rfl, by simp, by simp,
      fun i => by simp only [tcpasWrite, hn]; rfl⟩
  case h_2 hn =>  -- "activelow"
    obtain rfl := Option.some.inj h
    exact ⟨[(3, 2, true)], rfl, by simp, by simp,
      fun i => by simp only [tcpasWrite, hn]; rfl⟩
  case h_3 hn =>  -- "edge"
    obtain rfl := Option.some.inj h
    exact ⟨[(3, 1, true)], rfl, by simp, by simp,
      fun i => by simp only [tcpasWrite, hn]; rfl⟩
  case h_4 hn =>  -- "scigpe"
    obtain rfl := Option.some.inj h
    exact ⟨[(4, o.arg 0, false), (3, 4, true)], rfl, by simp, by simp,
      fun i => by simp only [tcpasWrite, hn]; rfl⟩
  case h_5 hn =>  -- "gsi"
    obtain rfl := Option.some.inj h
    exact ⟨[(5, o.arg 0, false), (3, 8, true)], rfl, by simp, by simp,
      fun i => by simp only [tcpasWrite, hn]; rfl⟩
  case h_6 hn =>  -- "pnp"
    obtain rfl := Option.some.inj h
    exact ⟨[(2, 2, true)], rfl, by simp, by simp,
      fun i => by simp only [tcpasWrite, hn]; rfl⟩
  case h_7 hn =>  -- "sbdf"
    split at h
    · cases h
    · obtain rfl := Option.some.inj h
      refine ⟨((List.range 4).map fun j => (16 + j, o.arg j, false)) ++ [(2, 1, true)], by rfl,
        by simp [List.range_succ], by simp [List.range_succ], fun i => ?_⟩
      rw [lookupWrite_append, lookupWrite_range]; simp only [tcpasWrite, hn]; split <;> rfl
  case h_8 hn =>  -- "base"
    obtain rfl := Option.some.inj h
    exact .range (base := 6) (n := 5) (f := o.arg) (by omega) rfl fun i => by simp only [tcpasWrite, hn]
  case h_9 hn =>  -- "config"
    obtain rfl := Option.some.inj h
    refine ⟨((List.range 5).map fun j => (11 + j, o.arg j, false)) ++ [(2, 4, true)], by rfl,
      by simp [List.range_succ], by simp [List.range_succ], fun i => ?_⟩
    rw [lookupWrite_append, lookupWrite_range]; simp only [tcpasWrite, hn]; split <;> rfl
  case h_10 =>  -- anything else
    cases h

theorem tcpas_slots (ops : List Opt) (s s' : FixedState) (ht : s.t = .tcpas) (hs : s.a.n.size = 20)
    (h : runFixedFrom s ops = some s') (i : Nat) : s'.a.num i = slotValue tcpasWrite i (s.a.num i) ops :=
  slots_run .tcpas 20 Tcpas.applyOp tcpasWrite step_tcpas_eq tcpas_apply ops s s' ht hs h i

theorem tcpas_init (i : Nat) : Tcpas.initState.num i = 0 :=
  num_writes_zero (ws := []) (N := 20) rfl (by simp) List.nodup_nil i

theorem conforms_tcpas (o : Oem) (c : EArgs) (ops : List Opt) (s : FixedState) (e : Nat)
    (h1 : o.id.length = 6) (h2 : o.table.length = 8) (hrun : runFixed .tcpas o c ops = some s) :
    conforms (fixedRows .tcpas o c ops (s.image.getD 8 0).toNat (s.image.getD 9 0).toNat e).1
      (fixedRows .tcpas o c ops (s.image.getD 8 0).toNat (s.image.getD 9 0).toNat e).2 s.image = none := by
  obtain ⟨ht, ho⟩ := runFixed_t_oem hrun
  obtain ⟨s0, h0, hr⟩ := runFixed_some hrun
  have hs0 : s0 = { t := .tcpas, oem := o, a := Tcpas.initState } := by
    unfold FixedState.new at h0; cases h0; rfl
  subst hs0
  have hslots := tcpas_slots ops _ s rfl (by simp [Tcpas.initState]) hr
  simp only [tcpas_init] at hslots
  rw [image_tcpas s ht, ho]
  unfold fixedRows tcpasRows
  simp only [List.append_assoc]
  refine conforms_hdrRows_observed _ 100 _ _ _ _ _ rfl h1 h2
    (by simp [tilesFrom, Row.off, Row.width, res, gasRows]) ?_
  simp [layout, Tcpas.body, hslots]

end Acpi.C04
