/-
  C01 and C02 on the fixed tables.  What both say of a header-bearing table is one fact about its
  image (`SdtImage`): a header whose Length field is the image size and whose checksum byte closes
  the byte sum.  For TPM2 and SLIT, which keep a running checksum, that rests on the accumulator
  invariants `Tpm2Inv` and `SlitInv`.  The RSDP, which has two checksums and its length elsewhere,
  has its own closed form.
-/
import Acpi.Lemmas.FixedRun
import Acpi.Lemmas.Header
import Acpi.Lemmas.Builder
namespace Acpi
open Acpi.C17

/-- `Checksum::append` of the zero-checksum header, then of everything else -/
theorem raw_append_append (h0 rest : Bytes) :
    ((({} : Cks).append h0).append rest).raw = sum8 (h0 ++ rest) := by
  rw [append_raw, append_raw, sum8_append]; simp [Cks.raw]

/-- the Length field of a header-bearing image reads back as the number it was built from -/
theorem readAt_hdr_length_ofNat (sig : Bytes) (len : Nat) (rev k : UInt8) (o : Oem) (rest : Bytes)
    (hs : sig.length = 4) (hl : len < 2 ^ 32) :
    readAt (hdrBytes sig (UInt32.ofNat len) rev k o ++ rest) 4 4 = some len := by
  rw [readAt_hdr_length _ _ _ _ _ _ hs, UInt32.toNat_ofNat', Nat.mod_eq_of_lt hl]

/-- `img` is a System Description Table: header (Length = `36 + |rest|`, checksum byte closing
    the sum) followed by `rest` -/
def SdtImage (o : Oem) (img : Bytes) : Prop :=
  ∃ (sig : Bytes) (len : Nat) (rev : UInt8) (c : Cks) (rest : Bytes),
    sig.length = 4 ∧ len < 2 ^ 32 ∧ rest.length + 36 = len ∧
    c.raw = sum8 (hdrBytes sig (UInt32.ofNat len) rev 0 o ++ rest) ∧
    img = hdrBytes sig (UInt32.ofNat len) rev c.cksum o ++ rest

theorem SdtImage.sum {o : Oem} {img : Bytes} (h : SdtImage o img) : sum8 img = 0 := by
  obtain ⟨sig, len, rev, c, rest, _, _, _, hc, rfl⟩ := h
  exact sum8_with_cksum _ _ _ _ _ _ hc

theorem SdtImage.length_field {o : Oem} {img : Bytes} (h : SdtImage o img) (h1 : o.id.length = 6)
    (h2 : o.table.length = 8) : readAt img 4 4 = some img.length := by
  obtain ⟨sig, len, rev, c, rest, hs, hl, hlen, _, rfl⟩ := h
  rw [readAt_hdr_length_ofNat _ _ _ _ _ _ hs hl, List.length_append, length_hdrBytes _ _ _ _ _ hs h1 h2, ← hlen,
    Nat.add_comm]

theorem sdt_fixedImage (sig : Bytes) (len : Nat) (rev : UInt8) (o : Oem) (fs : List Fld)
    (hs : sig.length = 4) (hl : len < 2 ^ 32) (hlen : fieldsLen fs + 36 = len) :
    SdtImage o (fixedImage sig len rev o (encFields fs)) :=
  ⟨sig, len, rev, _, _, hs, hl, by rw [length_encFields, hlen], raw_append_append _ _, rfl⟩

theorem fieldsLen_fadt (a : EArgs) : fieldsLen (Fadt.body a) = 240 := by
  unfold fieldsLen Fadt.body
  rw [List.map_map]
  show ((List.range 99).map (Fadt.widths.getD · 0)).sum = 240
  rw [range_map_getD Fadt.widths 0 (by decide +kernel)]
  decide +kernel

theorem fieldsLen_tcpas (a : EArgs) : fieldsLen (Tcpas.body a) = 64 := by
  simp [fieldsLen, Tcpas.body, gasFields, Fld.width]

theorem fieldsLen_spcr : fieldsLen spcrBody = 54 := by decide

theorem length_tpm2Rest (a : EArgs) : (tpm2Rest a).length + 36 = tpm2Len a := by
  unfold tpm2Rest tpm2Len
  rw [length_encFields]
  split <;> simp [fieldsLen, Fld.width]

/- `set_distance a b` writes the flat indices `a + n·b` and `b + n·a`.  Cell (i, j) of the row-major
   matrix lies at `i·n + j`, so `a + n·b` is row `b`, column `a`. -/
theorem slit_row_lt {n a b : Nat} (h : a + n * b < n * n) : b < n :=
  Nat.lt_of_not_le fun hb => by have := Nat.mul_le_mul_left n hb; omega

theorem slit_row_major_lt {n i j : Nat} (hi : i < n) (hj : j < n) : i * n + j < n * n := by
  have : (i + 1) * n ≤ n * n := Nat.mul_le_mul_right n hi
  rw [Nat.succ_mul] at this
  omega

theorem slit_flat_inj {n a b i j : Nat} (ha : a < n) (hj : j < n) :
    a + n * b = i * n + j ↔ b = i ∧ a = j := by
  rw [Nat.add_comm, Nat.mul_comm]
  exact Spec.cell_index_inj n b a i j ha hj

theorem slit_flat_ne {n a b : Nat} (hab : a ≠ b) (h1 : a + n * b < n * n) (h2 : b + n * a < n * n) :
    a + n * b ≠ b + n * a := fun h =>
  hab ((slit_flat_inj (slit_row_lt h2) (slit_row_lt h1)).mp
    (h.trans (by rw [Nat.mul_comm, Nat.add_comm]))).2

structure SlitInv (s : FixedState) : Prop where
  t : s.t = .slit
  len : s.cells.length = s.a.num 0 * s.a.num 0
  raw : s.cks.raw = sum8 (slitHead s.oem (s.a.num 0) 0 ++ s.cells.map UInt8.ofNat)
  hdr : s.hdrCks = s.cks.cksum

theorem slitInv_new {o : Oem} {c : EArgs} {s : FixedState} (h : FixedState.new .slit o c = some s) :
    SlitInv s ∧ s.a = c ∧ s.oem = o ∧ s.cells = List.replicate (c.num 0 * c.num 0) 10 ∧
      c.num 0 * c.num 0 + 44 < 2 ^ 32 := by
  unfold FixedState.new at h
  dsimp only at h
  split at h
  · cases h
  · rename_i hr
    cases h
    exact ⟨⟨rfl, by simp, raw_append_append _ _, rfl⟩, rfl, rfl, rfl, by omega⟩

theorem slitInv_step (s : FixedState) (o : Opt) (s' : FixedState) (I : SlitInv s)
    (h : s.step o = some s') : SlitInv s' := by
  have S := step_slit_some I.t h
  refine ⟨S.t, by rw [S.cells, S.a, List.length_set, List.length_set, I.len], ?_, S.hdr⟩
  have e1 := sum8_map_set s.cells _ (o.arg 2) S.lt₁
  have e2 := sum8_map_set (s.cells.set (o.arg 0 + s.a.num 0 * o.arg 1) (o.arg 2)) _ (o.arg 2)
    (Nat.lt_of_lt_of_eq S.lt₂ List.length_set.symm)
  have hr := I.raw
  rw [sum8_append] at hr
  rw [S.cks, S.a, S.oem, S.cells, sum8_append]
  by_cases hab : o.arg 0 = o.arg 1
  · -- both writes hit the one diagonal cell, and the model calls `sub` and `add`, which are
    -- `delete [_]` and `append [_]` by definition
    rw [if_pos hab]
    simp only [hab, List.set_set] at e1 ⊢
    show ((s.cks.delete [_]).append [_]).raw = _
    rw [append_raw, delete_raw, hr]
    simp only [sum8_cons, sum8_nil]
    grind
  · rw [if_neg hab, append_raw, delete_raw, hr]
    rw [getD_set _ _ _ _ _ S.lt₁, if_neg (slit_flat_ne hab (I.len ▸ S.lt₁) (I.len ▸ S.lt₂))] at e2
    simp only [sum8_cons, sum8_nil]
    grind

theorem slitInv_run {s s' : FixedState} {ops : List Opt} (I : SlitInv s)
    (h : runFixedFrom s ops = some s') : SlitInv s' ∧ s'.a = s.a :=
  runFixedFrom_inv (fun x => SlitInv x ∧ x.a = s.a) (fun x op x' hx hs =>
    ⟨slitInv_step x op x' hx.1 hs, (step_slit_some hx.1.t hs).a.trans hx.2⟩) ops s s' ⟨I, rfl⟩ h

structure Tpm2Inv (s : FixedState) : Prop where
  t : s.t = .tpm2
  size : s.a.n.size = 6
  raw : s.cks.raw = sum8 (hdrBytes [0x54, 0x50, 0x4D, 0x32] (UInt32.ofNat (tpm2Len s.a)) 1 0 s.oem ++ tpm2Rest s.a)
  hdr : s.hdrCks = s.cks.cksum

theorem tpm2Inv_new {o : Oem} {c : EArgs} {s : FixedState} (h : FixedState.new .tpm2 o c = some s) :
    Tpm2Inv s := by
  unfold FixedState.new at h
  dsimp only at h
  cases h
  exact ⟨rfl, rfl, raw_append_append _ _, rfl⟩

theorem tpm2Inv_step (s : FixedState) (o : Opt) (s' : FixedState) (I : Tpm2Inv s)
    (h : s.step o = some s') : Tpm2Inv s' := by
  obtain ⟨_, h3, ht, ho, ha, hh, hk⟩ := step_tpm2_some I.t h
  have hs := I.size
  have hr := I.raw
  refine ⟨ht, by rw [ha]; simp [hs], ?_, hh⟩
  have hl : tpm2Len s.a = 52 := by simp [tpm2Len, h3]
  have hl' : tpm2Len s'.a = 76 := by rw [ha]; simp [tpm2Len, Builder.num_setNum, hs]
  rw [hl] at hr
  -- the accumulator trades Length 52 for 76 (`sum8_hdrBytes_len`); the body grows by 12 zero bytes
  -- and the two fields that are appended
  rw [hl', hk, ho, append_raw, append_raw, append_raw, delete_raw, hr, sum8_append, sum8_append,
    sum8_hdrBytes_len _ (UInt32.ofNat 52) (UInt32.ofNat 76)]
  have e1 : tpm2Rest s.a = encFields [w16 (s.a.num 0), w16 0, q64 (s.a.num 1), d32 (s.a.num 2)] := by
    simp [tpm2Rest, h3]
  have e2 : tpm2Rest s'.a = encFields [w16 (s.a.num 0), w16 0, q64 (s.a.num 1), d32 (s.a.num 2),
      .raw (zeros 12), d32 (o.arg 0), q64 (o.arg 1)] := by
    rw [ha]; simp [tpm2Rest, Builder.num_setNum, hs]
  rw [e1, e2]
  simp only [encFields, List.flatMap_cons, List.flatMap_nil, Fld.bytes, sum8_append, sum8_zeros, sum8_nil]
  grind

theorem image_sdt {t : FixedT} {o : Oem} {c : EArgs} {ops : List Opt} {s : FixedState}
    (ht : t ≠ .facs ∧ t ≠ .rsdp) (hrun : runFixed t o c ops = some s) : SdtImage o s.image := by
  obtain ⟨s0, h0, h1⟩ := runFixed_some hrun
  obtain ⟨hT, hO⟩ := runFixed_t_oem hrun
  subst hO
  unfold FixedState.image
  rw [hT]
  cases t with
  | fadt => exact sdt_fixedImage _ _ _ _ _ rfl (by decide) (by rw [fieldsLen_fadt])
  | bert => exact sdt_fixedImage _ _ _ _ _ rfl (by decide) rfl
  | spcr => exact sdt_fixedImage _ _ _ _ _ rfl (by decide) (by rw [fieldsLen_spcr])
  | tcpac => exact sdt_fixedImage _ _ _ _ _ rfl (by decide) rfl
  | tcpas => exact sdt_fixedImage _ _ _ _ _ rfl (by decide) (by rw [fieldsLen_tcpas])
  | facs => exact absurd rfl ht.1
  | rsdp => exact absurd rfl ht.2
  | tpm2 =>
    have I := runFixedFrom_inv Tpm2Inv tpm2Inv_step ops s0 s (tpm2Inv_new h0) h1
    exact ⟨_, tpm2Len s.a, _, s.cks, _, rfl, by unfold tpm2Len; split <;> decide, length_tpm2Rest s.a,
      I.raw, by rw [I.hdr]⟩
  | slit =>
    obtain ⟨I0, ha0, _, _, hlt⟩ := slitInv_new h0
    obtain ⟨I, ha⟩ := slitInv_run I0 h1
    have hr := I.raw
    show SdtImage _ (slitHead s.oem (s.a.num 0) s.hdrCks ++ s.cells.map UInt8.ofNat)
    unfold slitHead at hr ⊢
    rw [List.append_assoc] at hr ⊢
    exact ⟨_, _, _, s.cks, _, rfl, ha ▸ ha0 ▸ hlt, by simp [I.len]; omega, hr, by rw [I.hdr]⟩

def rsdpPre (o : Oem) (k : UInt8) : Bytes :=
  [0x52, 0x53, 0x44, 0x20, 0x50, 0x54, 0x52, 0x20] ++ [k] ++ o.id ++ [2] ++ u32le 0

def rsdpRest (c : EArgs) (e : UInt8) : Bytes := u32le 36 ++ leN 8 (c.num 0) ++ [e, 0, 0, 0]

/-- the RSDP after any program: the 20-byte ACPI 1.0 part closed by `k`, the whole by `e` -/
theorem rsdp_image {o : Oem} {c : EArgs} {ops : List Opt} {s : FixedState}
    (hrun : runFixed .rsdp o c ops = some s) :
    ∃ k e, s.image = rsdpPre o k ++ rsdpRest c e ∧ sum8 (rsdpPre o k) = 0 ∧
      sum8 (rsdpPre o k ++ rsdpRest c e) = 0 := by
  obtain ⟨_, rfl⟩ := runFixed_plain (by simp [FixedT.plain]) hrun
  refine ⟨_, _, rfl, ?_, ?_⟩
  · simp only [rsdpPre, genChecksum_eq, sum8_append, sum8_cons, sum8_nil]
    grind
  · simp only [rsdpPre, rsdpRest, genChecksum_eq, sum8_append, sum8_cons, sum8_nil]
    grind

theorem length_rsdp (o : Oem) (c : EArgs) (k e : UInt8) (ho : o.id.length = 6) :
    (rsdpPre o k).length = 20 ∧ (rsdpPre o k ++ rsdpRest c e).length = 36 := by
  simp [rsdpPre, rsdpRest, ho]

end Acpi
