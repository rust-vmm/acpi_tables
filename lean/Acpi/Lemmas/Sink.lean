import Acpi.Sink
import Acpi.Lemmas.Basic
namespace Acpi
namespace Sink
variable {σ : Type}

/-- Chunking irrelevance: a lawful sink sees only the concatenation. -/
theorem feed_lawful (S : Sink σ) (abs : σ → Bytes) (h : Lawful S abs) (s : σ)
    (cs : List SinkCall) : abs (feed S s cs) = abs s ++ flatten cs := by
  induction cs generalizing s with
  | nil => simp [feed, flatten]
  | cons c cs ih =>
    have ih' := ih (feed1 S s c)
    simp only [feed, List.foldl_cons] at ih' ⊢
    rw [ih']
    cases c <;> simp [feed1, flatten, SinkCall.bytes, h.byte, h.word, h.dword, h.qword, h.vec]

theorem foldl_byte_lawful (byte : σ → UInt8 → σ) (abs : σ → Bytes)
    (hb : ∀ s b, abs (byte s b) = abs s ++ [b]) (s : σ) (v : Bytes) :
    abs (v.foldl byte s) = abs s ++ v := by
  induction v generalizing s with
  | nil => simp
  | cons b v ih => simp [ih, hb]

theorem feed1_ofByte (byte : σ → UInt8 → σ) (s : σ) (k : SinkCall) :
    feed1 (ofByte byte) s k = k.bytes.foldl byte s := by
  cases k <;> rfl

theorem feed_ofByte (byte : σ → UInt8 → σ) (s : σ) (cs : List SinkCall) :
    feed (ofByte byte) s cs = (flatten cs).foldl byte s := by
  rw [flatten, List.foldl_flatMap]
  exact congrArg (List.foldl · s cs) (funext fun s => funext (feed1_ofByte byte s))

end Sink
end Acpi
