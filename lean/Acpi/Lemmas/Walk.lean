/-
  The specification walk (Acpi/Spec/Walk.lean), for C03: an entry's header is read from the entry
  alone, one step of `walk`, and when `tableEntries` accepts.
-/
import Acpi.Spec.Walk
import Acpi.Lemmas.Basic
namespace Acpi
open Spec

theorem entryHdr_append (k : WalkKind) (raw rest : Bytes) (h : hdrSize k ≤ raw.length) :
    entryHdr k (raw ++ rest) = entryHdr k raw := by
  unfold entryHdr
  cases k with
  | t8l8 =>
    have : 2 ≤ raw.length := h
    rw [readAt_append_left _ _ 0 1 (by omega), readAt_append_left _ _ 1 1 (by omega)]
  | t16l32 =>
    have : 8 ≤ raw.length := h
    rw [readAt_append_left _ _ 0 2 (by omega), readAt_append_left _ _ 4 4 (by omega)]
  | t16l16 =>
    have : 4 ≤ raw.length := h
    rw [readAt_append_left _ _ 0 2 (by omega), readAt_append_left _ _ 2 2 (by omega)]
  | t8l16 =>
    have : 4 ≤ raw.length := h
    rw [readAt_append_left _ _ 0 1 (by omega), readAt_append_left _ _ 2 2 (by omega)]
  | hest =>
    have : 2 ≤ raw.length := h
    rw [readAt_append_left _ _ 0 2 (by omega)]
  | fixed n =>
    have : n ≤ raw.length := h
    simp only
    rw [if_pos this, if_pos (by simp only [List.length_append]; omega)]

theorem walk_step (k : WalkKind) (fuel : Nat) (bs : Bytes) (ty len : Nat)
    (hh : entryHdr k bs = some (ty, len)) (h1 : hdrSize k ≤ len) (h2 : 0 < len)
    (h3 : len ≤ bs.length) :
    walk k (fuel + 1) bs = (walk k fuel (bs.drop len)).map fun es => (ty, bs.take len) :: es := by
  cases bs with
  | nil => exact absurd h3 (by simp only [List.length_nil]; omega)
  | cons b bs =>
    conv => lhs; unfold walk
    simp only [hh]
    rw [if_neg (by omega)]

theorem tableEntries_ok (sh : TableShape) (img : Bytes) (L : List (Nat × Bytes))
    (h1 : sh.first ≤ img.length)
    (h2 : walk sh.kind img.length (img.drop sh.first) = some L)
    (h3 : ∀ off w, sh.count = some (off, w) → readAt img off w = some (L.length % 256 ^ w))
    (h4 : ∀ o w v, sh.arrayOff = some (o, w, v) → readAt img o w = some v) :
    tableEntries sh img = .ok L := by
  unfold tableEntries
  rw [if_neg (by omega)]
  simp only [h2]
  cases hc : sh.count with
  | none => rfl
  | some p =>
    obtain ⟨off, w⟩ := p
    simp only
    rw [if_neg (by rw [h3 off w hc]; exact fun h => h rfl)]
    cases ha : sh.arrayOff with
    | none => rfl
    | some q =>
      obtain ⟨o, w', v⟩ := q
      simp only
      rw [if_pos (h4 o w' v ha)]

end Acpi
