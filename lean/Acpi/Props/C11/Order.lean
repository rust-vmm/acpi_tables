/-
  C11, "in any order and any number of times", stated outright for the flag-bearing structures
  beyond SRAT memory affinity and generic initiator (C11.lean): two builder programs that invoke
  the same *set* of flag options (and push the same sequence of list elements, where the structure
  has a list) emit identical bytes — PPTT processor node, CFMWS, RINTC affinity, GIC MSI frame,
  HMAT locality structure, PPTT cache node, and in general every kind whose reference rows are
  written with the spec-side queries only (`order_irrelevant_of_same_queries`).  Each is
  `same_rows_same_bytes` applied to programs with equal reference rows.

  `cache_order_irrelevant_lastval_false`: for the cache node "same last value of each valued
  option" is not enough, since allocation type / cache type / write policy are OR-ed into the
  attributes byte: the *set* of values supplied matters.
-/
import Acpi.Lemmas.C11Distinct
namespace Acpi.C11
open Spec

/-- PPTT processor node, in general (direct field writes included): two programs with the same
    flags value (`procFlags`: last direct write of the field OR-ed with the flag builders invoked
    after it), the same last value written to the parent and processor-id fields, and the same
    sequence of `add_cache` calls emit identical bytes -/
theorem proc_same_fields_same_bytes (c : EArgs) (opts opts' : List Opt) (a a' : EArgs)
    (hf : procFlags opts = procFlags opts')
    (hpar : lastSet opts 1 (c.num 0) = lastSet opts' 1 (c.num 0))
    (hid : lastSet opts 2 (c.num 1) = lastSet opts' 2 (c.num 1))
    (hp : pushed opts "cache" = pushed opts' "cache")
    (hwf : entryWf .proc c opts = true) (hwf' : entryWf .proc c opts' = true)
    (h : buildEntry .proc c opts = .ok a) (h' : buildEntry .proc c opts' = .ok a') :
    entryBytes .proc a = entryBytes .proc a' :=
  same_rows_same_bytes .proc c opts opts' a a' (by decide) nofun hwf hwf' h h'
    (by simp only [rows, hf, hpar, hid, hp])

/-- PPTT processor node: the five flags in any order and repetition, interleaved with the same
    sequence of `add_cache` calls — for programs that do not write the flags field directly
    (`noFlagsWrite`) and agree on the last value written to the parent / processor-id fields.
    (With a direct write of the flags field the order of the flag builders relative to it
    matters: `proc_order_relevant_with_flags_write`.) -/
theorem proc_order_irrelevant (c : EArgs) (opts opts' : List Opt) (a a' : EArgs)
    (hs : ∀ nm, has opts nm = has opts' nm) (hp : pushed opts "cache" = pushed opts' "cache")
    (hnw : noFlagsWrite opts = true) (hnw' : noFlagsWrite opts' = true)
    (hpar : lastSet opts 1 (c.num 0) = lastSet opts' 1 (c.num 0))
    (hid : lastSet opts 2 (c.num 1) = lastSet opts' 2 (c.num 1))
    (hwf : entryWf .proc c opts = true) (hwf' : entryWf .proc c opts' = true)
    (h : buildEntry .proc c opts = .ok a) (h' : buildEntry .proc c opts' = .ok a') :
    entryBytes .proc a = entryBytes .proc a' :=
  proc_same_fields_same_bytes c opts opts' a a' (ProcF.procFlags_congr opts opts' hs hnw hnw') hpar hid hp
    hwf hwf' h h'

/-- … in particular for programs without any direct write (`set=` does not occur): same set of
    options and same sequence of `add_cache` calls give identical bytes -/
theorem proc_order_irrelevant_no_writes (c : EArgs) (opts opts' : List Opt) (a a' : EArgs)
    (hs : ∀ nm, has opts nm = has opts' nm) (hp : pushed opts "cache" = pushed opts' "cache")
    (hns : has opts "set" = false)
    (hwf : entryWf .proc c opts = true) (hwf' : entryWf .proc c opts' = true)
    (h : buildEntry .proc c opts = .ok a) (h' : buildEntry .proc c opts' = .ok a') :
    entryBytes .proc a = entryBytes .proc a' := by
  have hns' : has opts' "set" = false := by rw [← hs]; exact hns
  refine proc_order_irrelevant c opts opts' a a' hs hp (ProcF.noFlagsWrite_of_not_has_set _ hns)
    (ProcF.noFlagsWrite_of_not_has_set _ hns') ?_ ?_ hwf hwf' h h'
  · rw [ProcF.lastSet_of_not_has_set _ hns, ProcF.lastSet_of_not_has_set _ hns']
  · rw [ProcF.lastSet_of_not_has_set _ hns, ProcF.lastSet_of_not_has_set _ hns']

/-- the statement of `proc_order_irrelevant` without `noFlagsWrite` (even with *every* slot's
    last written value agreeing) … -/
def proc_order_irrelevant_unguarded : Prop :=
  ∀ (c : EArgs) (opts opts' : List Opt) (a a' : EArgs),
    (∀ nm, has opts nm = has opts' nm) → pushed opts "cache" = pushed opts' "cache" →
    (∀ j d, lastSet opts j d = lastSet opts' j d) →
    entryWf .proc c opts = true → entryWf .proc c opts' = true →
    buildEntry .proc c opts = .ok a → buildEntry .proc c opts' = .ok a' →
    entryBytes .proc a = entryBytes .proc a'

/-- … is false: `flags = 0; physical()` leaves the flags at 1, `physical(); flags = 0` at 0 — the
    same set of calls, the same last written values, different bytes -/
theorem proc_order_relevant_with_flags_write : ¬ proc_order_irrelevant_unguarded := by
  intro H
  have hs : ∀ nm, has [⟨"set", [0, 0]⟩, ⟨"physical", []⟩] nm = has [⟨"physical", []⟩, ⟨"set", [0, 0]⟩] nm := by
    intro nm; simp [has, Bool.or_comm]
  have hl : ∀ j d, lastSet [⟨"set", [0, 0]⟩, ⟨"physical", []⟩] j d = lastSet [⟨"physical", []⟩, ⟨"set", [0, 0]⟩] j d := by
    intro j d; simp [lastSet, List.filter]
  have := H {} [⟨"set", [0, 0]⟩, ⟨"physical", []⟩] [⟨"physical", []⟩, ⟨"set", [0, 0]⟩] _ _ hs (by decide)
    hl (by decide) (by decide) rfl rfl
  revert this
  decide

/-- non-vacuity of `proc_order_irrelevant`: the flag builders permuted and repeated around the same
    `add_cache` call and a direct write of the parent field -/
example :
    let p : List Opt := [⟨"physical", []⟩, ⟨"set", [1, 9]⟩, ⟨"cache", [40]⟩, ⟨"leaf", []⟩, ⟨"physical", []⟩]
    let p' : List Opt := [⟨"leaf", []⟩, ⟨"cache", [40]⟩, ⟨"physical", []⟩, ⟨"set", [1, 9]⟩]
    pushed p "cache" = pushed p' "cache" ∧ noFlagsWrite p = true ∧ noFlagsWrite p' = true ∧
    lastSet p 1 0 = lastSet p' 1 0 ∧ lastSet p 2 0 = lastSet p' 2 0 ∧
    entryWf .proc {} p = true ∧ entryWf .proc {} p' = true ∧
    (∃ a, buildEntry .proc {} p = .ok a) ∧ (∃ a, buildEntry .proc {} p' = .ok a) :=
  ⟨by decide, by decide, by decide, by decide, by decide, by decide, by decide, ⟨_, rfl⟩, ⟨_, rfl⟩⟩

/-- CXL fixed memory window: the five restriction flags in any order and repetition, with the
    same sequence of interleave targets -/
theorem cfmws_order_irrelevant (c : EArgs) (opts opts' : List Opt) (a a' : EArgs)
    (hs : ∀ nm, has opts nm = has opts' nm) (hp : pushed opts "target" = pushed opts' "target")
    (hwf : entryWf .cfmws c opts = true) (hwf' : entryWf .cfmws c opts' = true)
    (h : buildEntry .cfmws c opts = .ok a) (h' : buildEntry .cfmws c opts' = .ok a') :
    entryBytes .cfmws a = entryBytes .cfmws a' :=
  same_rows_same_bytes .cfmws c opts opts' a a' (by decide) nofun hwf hwf' h h'
    (by simp [rows, bit, hs, hp])

/-- SRAT RINTC affinity: any two programs that agree on whether `enabled` occurs and on the last
    proximity domain supplied emit identical bytes (order and repetition of the calls are
    irrelevant) -/
theorem rintcAff_order_irrelevant (c : EArgs) (opts opts' : List Opt) (a a' : EArgs)
    (hs : has opts "en" = has opts' "en") (hv : lastVal opts "pd" 0 0 = lastVal opts' "pd" 0 0)
    (hwf : entryWf .rintcAff c opts = true) (hwf' : entryWf .rintcAff c opts' = true)
    (h : buildEntry .rintcAff c opts = .ok a) (h' : buildEntry .rintcAff c opts' = .ok a') :
    entryBytes .rintcAff a = entryBytes .rintcAff a' :=
  same_rows_same_bytes .rintcAff c opts opts' a a' (by decide) nofun hwf hwf' h h'
    (by simp [rows, bit, hs, hv])

/-- GIC MSI frame: any two programs that agree on whether `spi` occurs, on the values of its last
    call, and on the last value set for the id and base address emit identical bytes -/
theorem gicmsi_order_irrelevant (c : EArgs) (opts opts' : List Opt) (a a' : EArgs)
    (hs : has opts "spi" = has opts' "spi")
    (hv0 : lastVal opts "spi" 0 0 = lastVal opts' "spi" 0 0)
    (hv1 : lastVal opts "spi" 1 0 = lastVal opts' "spi" 1 0)
    (hs0 : lastSet opts 0 0 = lastSet opts' 0 0) (hs1 : lastSet opts 1 0 = lastSet opts' 1 0)
    (hwf : entryWf .gicmsi c opts = true) (hwf' : entryWf .gicmsi c opts' = true)
    (h : buildEntry .gicmsi c opts = .ok a) (h' : buildEntry .gicmsi c opts' = .ok a') :
    entryBytes .gicmsi a = entryBytes .gicmsi a' :=
  same_rows_same_bytes .gicmsi c opts opts' a a' (by decide) nofun hwf hwf' h h'
    (by simp [rows, bit, hs, hv0, hv1, hs0, hs1])

/-- the two pure flag options of the HMAT locality structure -/
def isLocFlag (o : Opt) : Bool := o.name = "mtsr" || o.name = "nst"

/-- HMAT system locality structure: two programs that invoke the same set of the flag options
    `mtsr` (minimum transfer size) / `nst` (non-sequential transfers) and whose *other* calls
    (initiator / target / entry assignments) form the same sequence emit identical bytes — the
    flag calls may be placed anywhere among the other calls, in any order, any number of times -/
theorem loc_flags_order_irrelevant (c : EArgs) (opts opts' : List Opt) (a a' : EArgs)
    (hm : has opts "mtsr" = has opts' "mtsr") (hn : has opts "nst" = has opts' "nst")
    (hrest : opts.filter (fun o => !isLocFlag o) = opts'.filter (fun o => !isLocFlag o))
    (hwf : entryWf .loc c opts = true) (hwf' : entryWf .loc c opts' = true)
    (h : buildEntry .loc c opts = .ok a) (h' : buildEntry .loc c opts' = .ok a') :
    entryBytes .loc a = entryBytes .loc a' := by
  -- a filter on a name other than the two flags sees the same calls in both programs
  have hf : ∀ (nm : String) (Q : Opt → Prop) [DecidablePred Q], nm ≠ "mtsr" → nm ≠ "nst" →
      opts.filter (fun o => decide (o.name = nm ∧ Q o)) = opts'.filter (fun o => decide (o.name = nm ∧ Q o)) := by
    intro nm Q _ h1 h2
    have hp : ∀ o, decide (o.name = nm ∧ Q o) = true → isLocFlag o = false := by
      intro o ho
      simp only [decide_eq_true_eq] at ho
      simp [isLocFlag, ho.1, h1, h2]
    rw [filter_eq_filter_filter_not opts _ isLocFlag hp, filter_eq_filter_filter_not opts' _ isLocFlag hp, hrest]
  have e1 := fun i j : Nat => hf "sete" (fun o => o.arg 0 = i ∧ o.arg 1 = j) (by decide) (by decide)
  have e2 := fun i : Nat => hf "seti" (fun o => o.arg 0 = i) (by decide) (by decide)
  have e3 := fun i : Nat => hf "sett" (fun o => o.arg 0 = i) (by decide) (by decide)
  exact same_rows_same_bytes .loc c opts opts' a a' (by decide) nofun hwf hwf' h h'
    (by simp only [rows, bit, hm, hn, e1, e2, e3])

/-- PPTT cache node: two programs emit identical bytes if they invoke the same set of options,
    agree on the last value supplied for each field that is *assigned* (next level, size, sets,
    associativity, line size, cache id), and supply the same *set* of values for each attribute
    that is *OR-ed* into the attributes byte (allocation type, cache type, write policy). -/
theorem cache_order_irrelevant (c : EArgs) (opts opts' : List Opt) (a a' : EArgs)
    (hs : ∀ nm, has opts nm = has opts' nm)
    (hv : ∀ nm ∈ ["next", "size", "sets", "assoc", "line", "id"],
      lastVal opts nm 0 0 = lastVal opts' nm 0 0)
    (hp : ∀ nm ∈ ["alloc", "ctype", "wp"], ∀ v, v ∈ pushed opts nm ↔ v ∈ pushed opts' nm)
    (hwf : entryWf .cache c opts = true) (hwf' : entryWf .cache c opts' = true)
    (h : buildEntry .cache c opts = .ok a) (h' : buildEntry .cache c opts' = .ok a') :
    entryBytes .cache a = entryBytes .cache a' := by
  have o1 := foldl_or_congr_set id _ _ (hp "alloc" (by simp))
  have o2 := foldl_or_congr_set (· * 4) _ _ (hp "ctype" (by simp))
  have o3 := foldl_or_congr_set (· * 16) _ _ (hp "wp" (by simp))
  have v1 := hv "next" (by simp)
  have v2 := hv "size" (by simp)
  have v3 := hv "sets" (by simp)
  have v4 := hv "assoc" (by simp)
  have v5 := hv "line" (by simp)
  have v6 := hv "id" (by simp)
  exact same_rows_same_bytes .cache c opts opts' a a' (by decide) nofun hwf hwf' h h'
    (by simp only [rows, bit, hs, v1, v2, v3, v4, v5, v6, o1, o2, o3])

/-- the statement with "same last value for each valued option" in place of "same set of values
    for each OR-ed attribute" … -/
def cache_order_irrelevant_lastval : Prop :=
  ∀ (c : EArgs) (opts opts' : List Opt) (a a' : EArgs),
    (∀ nm, has opts nm = has opts' nm) → (∀ nm i d, lastVal opts nm i d = lastVal opts' nm i d) →
    entryWf .cache c opts = true → entryWf .cache c opts' = true →
    buildEntry .cache c opts = .ok a → buildEntry .cache c opts' = .ok a' →
    entryBytes .cache a = entryBytes .cache a'

/-- … is false, for the model and for the reference rows alike: `allocation_type(Write)` then
    `allocation_type(Both)` ORs the codes 1 and 2 into the attributes byte (3), while
    `allocation_type(Both)` alone gives 2; both programs have the same options and last values. -/
theorem cache_order_irrelevant_lastval_false : ¬ cache_order_irrelevant_lastval := by
  intro H
  have hs : ∀ nm, has [⟨"alloc", [1]⟩, ⟨"alloc", [2]⟩] nm = has [⟨"alloc", [2]⟩] nm := by
    intro nm; simp [has]
  have hv : ∀ nm i d, lastVal [⟨"alloc", [1]⟩, ⟨"alloc", [2]⟩] nm i d = lastVal [⟨"alloc", [2]⟩] nm i d := by
    intro nm i d
    by_cases hn : "alloc" = nm
    · subst hn; simp [lastVal, lastOf]
    · simp [lastVal, lastOf, List.filter, hn]
  have := H {} [⟨"alloc", [1]⟩, ⟨"alloc", [2]⟩] [⟨"alloc", [2]⟩] _ _ hs hv (by decide) (by decide) rfl rfl
  revert this
  decide

/-- the options whose calls *accumulate* (list elements, OR-ed attribute codes): the names the
    reference rows query with `pushed` -/
def pushedNames : List String := ["h", "cache", "alloc", "ctype", "wp", "cmo", "target", "map"]

/-- all the spec-side queries of Acpi.Spec.Layout agree on two programs: the same set of options
    occurs, every valued option / state slot has the same last value, and the accumulating options
    push the same sequence of values -/
structure SameQueries (opts opts' : List Opt) : Prop where
  has_eq : ∀ nm, has opts nm = has opts' nm
  lastVal_eq : ∀ nm i d, lastVal opts nm i d = lastVal opts' nm i d
  lastSet_eq : ∀ idx d, lastSet opts idx d = lastSet opts' idx d
  pushed_eq : ∀ nm ∈ pushedNames, pushed opts nm = pushed opts' nm

/-- **order and repetition do not matter, in general**: for every structure whose reference rows
    are written with the spec-side queries only (all but the GICC and HMAT-locality structures,
    which filter on argument values, and the excluded GED), two programs on which `has`,
    `lastVal`, `lastSet` and `pushed` agree emit identical bytes.  The PPTT processor node has one
    more query, its flags value `procFlags` (sensitive to the position of the flag builders
    relative to a direct write of the field): `hpf`, which follows from the other queries for
    programs without such a write (`ProcF.procFlags_congr`). -/
theorem order_irrelevant_of_same_queries (k : Kind) (c : EArgs) (opts opts' : List Opt) (a a' : EArgs)
    (hk : k ≠ .ged) (hk1 : k ≠ .gicc) (hk2 : k ≠ .loc) (hq : k = .qosctrl → C04.qosCtorWf c)
    (q : SameQueries opts opts') (hpf : k = .proc → procFlags opts = procFlags opts')
    (hwf : entryWf k c opts = true) (hwf' : entryWf k c opts' = true)
    (h : buildEntry k c opts = .ok a) (h' : buildEntry k c opts' = .ok a') :
    entryBytes k a = entryBytes k a' := by
  refine same_rows_same_bytes k c opts opts' a a' hk hq hwf hwf' h h' ?_
  obtain ⟨q1, q2, q3, q4⟩ := q
  have p1 := q4 "h" (by decide)
  have p2 := q4 "cache" (by decide)
  have p3 := q4 "alloc" (by decide)
  have p4 := q4 "ctype" (by decide)
  have p5 := q4 "wp" (by decide)
  have p6 := q4 "cmo" (by decide)
  have p7 := q4 "target" (by decide)
  have p8 := q4 "map" (by decide)
  cases k
  case gicc => exact absurd rfl hk1
  case loc => exact absurd rfl hk2
  case proc => simp only [rows, hpf rfl, q3, p2]
  case gicmsi | mem | gi | rintcAff | msc | cache | hart | cfmws | cxims | aerrp | aerdev | aerbr | ghes | ghesv2
      | notif =>
    all_goals simp only [rows, bit, aerCommon, ghesCommon, q1, q2, q3, p1, p3, p4, p5, p6, p7, p8]
  -- the rows of the other kinds do not mention the options
  all_goals rfl

/-- non-vacuity of the order theorems: `enabled` twice around a proximity-domain call against once -/
example : SameQueries [⟨"en", []⟩, ⟨"pd", [3]⟩, ⟨"en", []⟩] [⟨"pd", [3]⟩, ⟨"en", []⟩] ∧
    entryWf .rintcAff { n := #[7], b := #[[1, 2, 3, 4]] } [⟨"en", []⟩, ⟨"pd", [3]⟩, ⟨"en", []⟩] = true ∧
    (∃ a, buildEntry .rintcAff { n := #[7], b := #[[1, 2, 3, 4]] } [⟨"en", []⟩, ⟨"pd", [3]⟩, ⟨"en", []⟩] = .ok a) ∧
    (∃ a, buildEntry .rintcAff { n := #[7], b := #[[1, 2, 3, 4]] } [⟨"pd", [3]⟩, ⟨"en", []⟩] = .ok a) := by
  refine ⟨⟨?_, ?_, ?_, ?_⟩, by decide, ⟨_, rfl⟩, ⟨_, rfl⟩⟩
  · intro nm; simp [has]; exact fun h => Or.inr h
  · intro nm i d
    by_cases h1 : "en" = nm
    · subst h1; simp [lastVal, lastOf]
    · by_cases h2 : "pd" = nm
      · subst h2; simp [lastVal, lastOf]
      · simp [lastVal, lastOf, List.filter, h1, h2]
  · intro idx d; simp [lastSet]
  · intro nm hnm
    simp only [pushedNames, List.mem_cons, List.not_mem_nil, or_false] at hnm
    rcases hnm with rfl | rfl | rfl | rfl | rfl | rfl | rfl | rfl <;> decide

/-- non-vacuity of `loc_flags_order_irrelevant`: the flag before or after (and repeated around)
    the same entry assignment -/
example : has [⟨"nst", []⟩, ⟨"sete", [0, 0, 7]⟩, ⟨"nst", []⟩] "mtsr" = has [⟨"sete", [0, 0, 7]⟩, ⟨"nst", []⟩] "mtsr" ∧
    has [⟨"nst", []⟩, ⟨"sete", [0, 0, 7]⟩, ⟨"nst", []⟩] "nst" = has [⟨"sete", [0, 0, 7]⟩, ⟨"nst", []⟩] "nst" ∧
    ([⟨"nst", []⟩, ⟨"sete", [0, 0, 7]⟩, ⟨"nst", []⟩] : List Opt).filter (fun o => !isLocFlag o) =
      ([⟨"sete", [0, 0, 7]⟩, ⟨"nst", []⟩] : List Opt).filter (fun o => !isLocFlag o) ∧
    entryWf .loc { n := #[3, 0, 0, 100, 1, 1] } [⟨"nst", []⟩, ⟨"sete", [0, 0, 7]⟩, ⟨"nst", []⟩] = true ∧
    (∃ a, buildEntry .loc { n := #[3, 0, 0, 100, 1, 1] } [⟨"nst", []⟩, ⟨"sete", [0, 0, 7]⟩, ⟨"nst", []⟩] = .ok a) ∧
    (∃ a, buildEntry .loc { n := #[3, 0, 0, 100, 1, 1] } [⟨"sete", [0, 0, 7]⟩, ⟨"nst", []⟩] = .ok a) :=
  ⟨by decide, by decide, by decide, by decide, ⟨_, rfl⟩, ⟨_, rfl⟩⟩

/-- non-vacuity of `cache_order_irrelevant`: the same calls permuted and one repeated -/
example :
    let p : List Opt := [⟨"alloc", [1]⟩, ⟨"size", [4096]⟩, ⟨"alloc", [2]⟩, ⟨"size", [8192]⟩]
    let p' : List Opt := [⟨"size", [8192]⟩, ⟨"alloc", [2]⟩, ⟨"alloc", [1]⟩, ⟨"alloc", [2]⟩]
    (∀ nm ∈ ["next", "size", "sets", "assoc", "line", "id"], lastVal p nm 0 0 = lastVal p' nm 0 0) ∧
    (∀ nm ∈ ["alloc", "ctype", "wp"], ∀ v, v ∈ pushed p nm ↔ v ∈ pushed p' nm) ∧
    entryWf .cache {} p = true ∧ entryWf .cache {} p' = true ∧
    (∃ a, buildEntry .cache {} p = .ok a) ∧ (∃ a, buildEntry .cache {} p' = .ok a) := by
  refine ⟨by decide, ?_, by decide, by decide, ⟨_, rfl⟩, ⟨_, rfl⟩⟩
  intro nm hnm v
  simp only [List.mem_cons, List.not_mem_nil, or_false] at hnm
  rcases hnm with rfl | rfl | rfl <;> simp [pushed, Opt.arg] <;> omega

end Acpi.C11
