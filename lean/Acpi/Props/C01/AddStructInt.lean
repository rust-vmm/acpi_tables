/-
  C01 / C02, recorded finding KF-ADDSTRUCT-INT: `MADT::add_structure<T>` and
  `HEST::add_structure<T>` take Length growth and checksum contribution from the *raw* form of `T`
  (`size_of::<T>()`, `as_bytes()`) and the bytes from its `Aml` impl.  For the table structures the two
  forms coincide (observed by the harness on every entry; `C14.u8sum_is_sum` ties the accumulator's
  `u8sum` to `sum8` of the bytes fed); the primitive integers also satisfy the trait bound of
  `add_structure<T>`, and for them they do not: the raw form of `5u8` is `05`, its AML form `0A 05`.

  In the engine's terms that is an add with `claimed ≠ raw.length` and `fed ≠ sum8 raw` — outside the
  hypotheses of `C01.tbl_sum_zero` / `C02.tbl_length_field`.  This file keeps the unguarded statements
  visible, refutes them on that witness (the replay against the real code is the `dflt/43` case of the
  `tbl` stream), and records that the guarded theorems are the ones proved.
-/
import Acpi.Tbl
import Acpi.Aml.Int
import Acpi.Props.C01
namespace Acpi.C01

/-- the unguarded claim: whatever is claimed and fed for an entry, the image sums to zero and announces
    its own size -/
def unguarded_add_keeps_header : Prop :=
  ∀ (t : Tbl) (raw : Bytes) (claimed : Nat) (fed : UInt8) (h : Nat) (t' : Tbl),
    sum8 t.image = 0 → t.add raw claimed fed = some (h, t') →
    sum8 t'.image = 0 ∧ (t'.image.drop 4).take 4 = u32le (UInt32.ofNat t'.image.length)

/-- what `madt.add_structure(5u8)` does to an empty MADT: one byte accounted (raw form `05`), two bytes
    emitted (AML form `0A 05`) -/
def madtAfterU8 : Option (Nat × Tbl) :=
  (Tbl.new (cfgMADT 0) ⟨[1, 2, 3, 4, 5, 6], [1, 2, 3, 4, 5, 6, 7, 8], 7⟩).add (encU8 5) 1 5

/-- **recorded finding**: the image does not sum to zero and its Length is one short -/
theorem addstruct_int_counterexample :
    ∃ h t', madtAfterU8 = some (h, t') ∧ sum8 t'.image ≠ 0 ∧
      (t'.image.drop 4).take 4 ≠ u32le (UInt32.ofNat t'.image.length) ∧ t'.image.length = 46 := by
  refine ⟨44, _, rfl, ?_, ?_, ?_⟩ <;> decide +kernel

theorem unguarded_add_keeps_header_false : ¬ unguarded_add_keeps_header := by
  intro H
  obtain ⟨h, t', e, hs, -, -⟩ := addstruct_int_counterexample
  have h0 : sum8 (Tbl.new (cfgMADT 0) ⟨[1, 2, 3, 4, 5, 6], [1, 2, 3, 4, 5, 6, 7, 8], 7⟩).image = 0 := by
    decide +kernel
  exact hs (H _ _ _ _ h t' h0 e).1

/-- the guarded statement that *is* proved, checksum half: with the serialised form's own size
    claimed and its own byte sum fed (what every table structure gives: its raw form is its
    serialised form) the image sums to zero; this is `tbl_sum_zero` for a one-entry history.  The
    Length half of `unguarded_add_keeps_header` is `C02.tbl_length_field`, which in addition needs
    `C02.CfgWf` and an image below 2^32 bytes. -/
theorem add_keeps_header_partial (c : TblCfg) (o : Oem) (raw : Bytes) (hs : List Nat) (t : Tbl)
    (h : runAdds (Tbl.new c o) [(raw, raw.length)] = some (hs, t)) : sum8 t.image = 0 :=
  tbl_sum_zero c o _ hs t h

end Acpi.C01
