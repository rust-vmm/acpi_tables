/-
  The grammar-driven AML parser of Acpi.Spec.Aml, one step at a time: `parseOp` names its operator
  branch (reached through `OpByte` / `OpCode`), `parseBody` the body of a PkgLength-delimited
  operator; the one-step lemmas are stated with hypotheses about the recursive calls.
-/
import Acpi.Spec.Aml
import Acpi.Lemmas.AmlEnc
import Acpi.Props.C07
namespace Acpi.Spec.Aml

theorem TmList.append_nil : ∀ (l : TmList), l.append .nil = l
  | .nil => rfl
  | .cons a r => by rw [TmList.append, TmList.append_nil r]

theorem TmList.ofList_append : ∀ (a b : List Tm), (TmList.ofList a).append (TmList.ofList b) = TmList.ofList (a ++ b)
  | [], _ => rfl
  | x :: a, b => by rw [TmList.ofList, TmList.append, TmList.ofList_append a b]; rfl

end Acpi.Spec.Aml

namespace Acpi.Lemmas.AmlParse
open Spec Spec.Aml

theorem append_one (x : Tm) (l : List Tm) :
    (TmList.cons x .nil).append (TmList.ofList l) = TmList.ofList (x :: l) := rfl

theorem append_nil_left (l : TmList) : TmList.nil.append l = l := rfl

/-- the operator branch of `parseTerm`, after the opcode has been read -/
def parseOp (env : Env) (fuel : Nat) (code : Nat) (rest : Bytes) : Option (Tm × Bytes) :=
  match shape code with
  | none => none
  | some sh =>
    match sh.body with
    | none =>
      (parseSlots env fuel sh.slots rest).map fun (ints, kids, r) => (.node (.op code) ints [] kids, r)
    | some body =>
      match PkgLength.decode rest with
      | none => none
      | some (total, w) =>
        if total < w ∨ rest.length < total then none else
        let inner := (rest.drop w).take (total - w)
        let after := rest.drop total
        match parseSlots env fuel sh.slots inner with
        | none => none
        | some (ints, kids, r) =>
          match body with
          | .bytes => some (.node (.op code) ints [r] kids, after)
          | .terms => (parseTermList env fuel r).map fun ts => (.node (.op code) ints [] (kids.append ts), after)
          | .elems => (parseElems env fuel r).map fun ts => (.node (.op code) ints [] (kids.append ts), after)
          | .fields => (parseFields r.length r).map fun ts => (.node (.op code) ints [] (kids.append ts), after)

/-- first bytes that reach the operator branch -/
def OpByte (b : UInt8) : Prop :=
  ¬ (b = 0x00 ∨ b = 0x01 ∨ b = 0x0A ∨ b = 0x0B ∨ b = 0x0C ∨ b = 0x0E) ∧ ¬ b = 0x0D ∧
  ¬ (0x60 ≤ b ∧ b ≤ 0x67) ∧ ¬ (0x68 ≤ b ∧ b ≤ 0x6E) ∧ ¬ isNameLead b = true

instance (b : UInt8) : Decidable (OpByte b) := by unfold OpByte; infer_instance

/-- opcode bytes and the grammar code they select -/
inductive OpCode : Bytes → Nat → Prop
  | plain (c : UInt8) (code : Nat) (hc : OpByte c) (h5 : c ≠ 0x5B) (hcode : code = c.toNat) : OpCode [c] code
  | ext (c2 : UInt8) (code : Nat) (hcode : code = 0x5B00 + c2.toNat) : OpCode [0x5B, c2] code

theorem OpCode.len {opc : Bytes} {code : Nat} (h : OpCode opc code) : 1 ≤ opc.length ∧ opc.length ≤ 2 := by
  cases h <;> simp

theorem parseTerm_opc (env : Env) (fuel : Nat) (opc : Bytes) (code : Nat) (bs : Bytes) (h : OpCode opc code) :
    parseTerm env (fuel + 1) (opc ++ bs) = parseOp env fuel code bs := by
  cases h with
  | plain c code hc h5 hcode =>
    subst hcode
    obtain ⟨h1, h2, h3, h4, h6⟩ := hc
    rw [List.singleton_append, parseTerm.eq_3]
    simp only [if_neg h1, if_neg h2, if_neg h3, if_neg h4, if_neg h6, if_neg h5]
    rfl
  | ext c2 code hcode =>
    subst hcode
    obtain ⟨h1, h2, h3, h4, h6⟩ : OpByte 0x5B := by decide
    rw [List.cons_append, List.singleton_append, parseTerm.eq_3]
    simp only [if_neg h1, if_neg h2, if_neg h3, if_neg h4, if_neg h6, if_true, List.headD_cons,
      List.drop_succ_cons, List.drop_zero]
    rfl

/-- framing of a PkgLength-delimited object emitted as `pkgLen |body| ++ body` -/
theorem decode_frame (body rest : Bytes) (hpl : ¬ pkgLenPanics body.length true = true) :
    ∃ total w, PkgLength.decode (pkgLen body.length true ++ body ++ rest) = some (total, w) ∧
      ¬ (total < w ∨ (pkgLen body.length true ++ body ++ rest).length < total) ∧
      ((pkgLen body.length true ++ body ++ rest).drop w).take (total - w) = body ∧
      (pkgLen body.length true ++ body ++ rest).drop total = rest := by
  have h28 := pkgLenTotal_lt_of_not_panics hpl
  refine ⟨_, _, C07.decode_object body.length body rest rfl h28, ?_, ?_, ?_⟩
  · simp only [List.length_append]; omega
  · rw [List.append_assoc, List.drop_left, List.length_append, Nat.add_sub_cancel_left, List.take_left]
  · rw [List.drop_left]

/-- the body of a PkgLength-delimited operator, whatever its kind: the blobs and the further
    children it yields -/
def parseBody (env : Env) (fuel : Nat) : Body → Bytes → Option (List Bytes × TmList)
  | .bytes, r => some ([r], .nil)
  | .terms, r => (parseTermList env fuel r).map fun ts => ([], ts)
  | .elems, r => (parseElems env fuel r).map fun ts => ([], ts)
  | .fields, r => (parseFields r.length r).map fun ts => ([], ts)

theorem parseOp_framed (env : Env) (fuel code : Nat) (inner rest : Bytes) (slots : List Slot) (body : Body)
    (ints : List Nat) (kids ts : TmList) (bl : List Bytes) (r : Bytes)
    (hsh : shape code = some ⟨slots, some body⟩)
    (hpl : ¬ pkgLenPanics inner.length true = true)
    (hs : parseSlots env fuel slots inner = some (ints, kids, r))
    (hb : parseBody env fuel body r = some (bl, ts)) :
    parseOp env fuel code (pkgLen inner.length true ++ inner ++ rest) =
      some (.node (.op code) ints bl (kids.append ts), rest) := by
  obtain ⟨total, w, hd, hc, hi, ha⟩ := decode_frame inner rest hpl
  cases body <;> simp only [parseBody, Option.map_eq_some_iff, Option.some.injEq, Prod.mk.injEq] at hb
  case bytes =>
    obtain ⟨rfl, rfl⟩ := hb
    simp only [parseOp, hsh, hd, if_neg hc, hi, ha, hs, TmList.append_nil]
  all_goals
    obtain ⟨ts', hb, rfl, rfl⟩ := hb
    simp only [parseOp, hsh, hd, if_neg hc, hi, ha, hs, hb, Option.map_some]

/-- SuperName / Target slot: a name -/
theorem parseSlots_SG_name (env : Env) (fuel : Nat) (s : Slot) (hs : s = .S ∨ s = .G) (ss : List Slot)
    (b : UInt8) (bs rest : Bytes) (rt : Bool) (segs : List Bytes)
    (is : List Nat) (ks : TmList) (r : Bytes)
    (hb : isNameLead b = true)
    (hn : NameString.decode (b :: bs) = some (rt, segs, rest))
    (h : parseSlots env fuel ss rest = some (is, ks, r)) :
    parseSlots env (fuel + 1) (s :: ss) (b :: bs) = some (is, .cons (mkName rt segs .nil) ks, r) := by
  have h0 : b ≠ 0 := by intro e; subst e; revert hb; decide
  rcases hs with rfl | rfl <;>
    simp only [parseSlots, h0, and_false, reduceCtorEq, if_false, hb, if_true, hn, h, Option.map_some]

/-- a NameString lead byte is in none of the other first-byte classes -/
theorem lead_classes (b : UInt8) (hb : isNameLead b = true) :
    ¬ (b = 0x00 ∨ b = 0x01 ∨ b = 0x0A ∨ b = 0x0B ∨ b = 0x0C ∨ b = 0x0E) ∧ ¬ b = 0x0D ∧
    ¬ (0x60 ≤ b ∧ b ≤ 0x67) ∧ ¬ (0x68 ≤ b ∧ b ≤ 0x6E) ∧
    ¬ ((0x60 ≤ b ∧ b ≤ 0x6E) ∨ b = 0x83 ∨ b = 0x88 ∨ b = 0x71) := by
  simp only [isNameLead, NameString.isLead, UInt8.le_iff_toNat_le, ← UInt8.toNat_inj, Bool.or_eq_true,
    Bool.and_eq_true, decide_eq_true_eq] at hb ⊢
  simp only [UInt8.toNat_ofNat] at hb ⊢
  omega

/-- SuperName / Target slot: LocalObj | ArgObj | DerefOf | Index | RefOf (the crate has no RefOf) -/
theorem parseSlots_SG_term (env : Env) (fuel : Nat) (s : Slot) (hs : s = .S ∨ s = .G) (ss : List Slot)
    (b : UInt8) (bs rest : Bytes) (t : Tm)
    (is : List Nat) (ks : TmList) (r : Bytes)
    (hb : (0x60 ≤ b ∧ b ≤ 0x6E) ∨ b = 0x83 ∨ b = 0x88 ∨ b = 0x71)
    (ht : parseTerm env fuel (b :: bs) = some (t, rest))
    (h : parseSlots env fuel ss rest = some (is, ks, r)) :
    parseSlots env (fuel + 1) (s :: ss) (b :: bs) = some (is, .cons t ks, r) := by
  have h0 : b ≠ 0 := by
    intro e; subst e; revert hb; decide
  have hl : ¬ isNameLead b = true := fun h => (lead_classes b h).2.2.2.2 hb
  rcases hs with rfl | rfl <;>
    simp only [parseSlots, h0, and_false, reduceCtorEq, if_false, hl, if_pos hb, ht, h, Option.map_some]

theorem parseTermList_nil (env : Env) (fuel : Nat) : parseTermList env fuel [] = some .nil := by
  cases fuel <;> simp only [parseTermList]

theorem parseTermList_cons (env : Env) (fuel : Nat) (bs rest : Bytes) (t : Tm) (ts : TmList)
    (hne : bs ≠ [])
    (ht : parseTerm env fuel bs = some (t, rest))
    (h : parseTermList env fuel rest = some ts) :
    parseTermList env (fuel + 1) bs = some (.cons t ts) := by
  cases bs with
  | nil => exact absurd rfl hne
  | cons b bs => simp only [parseTermList, ht, h, Option.map_some]

theorem parseTerms_zero (env : Env) (fuel : Nat) (bs : Bytes) : parseTerms env fuel 0 bs = some (.nil, bs) := by
  cases fuel <;> simp only [parseTerms]

theorem parseElems_nil (env : Env) (fuel : Nat) : parseElems env fuel [] = some .nil := by
  cases fuel <;> simp only [parseElems]

theorem parseElems_name (env : Env) (fuel : Nat) (b : UInt8) (bs rest : Bytes) (rt : Bool) (segs : List Bytes)
    (ts : TmList) (hb : isNameLead b = true)
    (hn : NameString.decode (b :: bs) = some (rt, segs, rest))
    (h : parseElems env fuel rest = some ts) :
    parseElems env (fuel + 1) (b :: bs) = some (.cons (mkName rt segs .nil) ts) := by
  simp only [parseElems, hb, if_true, hn, h, Option.map_some]

theorem parseElems_term (env : Env) (fuel : Nat) (b : UInt8) (bs rest : Bytes) (t : Tm)
    (ts : TmList) (hb : ¬ isNameLead b = true)
    (ht : parseTerm env fuel (b :: bs) = some (t, rest))
    (h : parseElems env fuel rest = some ts) :
    parseElems env (fuel + 1) (b :: bs) = some (.cons t ts) := by
  simp only [parseElems, hb, Bool.false_eq_true, if_false, ht, h, Option.map_some]

end Acpi.Lemmas.AmlParse
