/-
  C07, call sites: every length-prefixed object the model's AML encoder emits carries, right
  after its opcode, a PkgLength that decodes (by the specification's rule) to the number of
  bytes from its own first byte to the end of the object, in the shortest encoding that can
  include its own size — the oracle `Spec.c07Object` the driver runs on the implementation's
  bytes, proved here of the model for every node (`object_pkglength`); and a single field-list
  entry carries exactly the width given (`field_entry_width`).  The driver's loop over a whole
  field list, `Spec.c07FieldEntries`, is evaluated on the implementation's bytes only: no
  theorem here is about it.
-/
import Acpi.Lemmas.AmlFrame
import Acpi.Props.C15
namespace Acpi.C07
open Spec

/-- explicit form: the object is `opcode ++ PkgLength ++ body` with the PkgLength of the body -/
theorem object_framed (op : Op) (ints : List Nat) (blobs : List Bytes) (kids : AmlList) (bs : Bytes)
    (w : Nat) (hw : pkgLenOpcodeWidth op = some w)
    (h : (Aml.node op ints blobs kids).enc = some bs) :
    ∃ body, bs = bs.take w ++ pkgLen body.length true ++ body ∧ pkgLenTotal body.length true < 2 ^ 28 := by
  cases op
  case bufterm | pkg | varpkg | scope | method | if_ | while_ | else_ | device | field | powerres =>
    cases hw
    exact framed_of_row h rfl rfl
  case pkgb =>
    cases hw
    rw [C15.pkgb_eq_pkg] at h
    exact framed_of_row h rfl rfl
  case scoperaw =>
    cases hw
    rw [C15.scoperaw_eq_scope] at h
    exact framed_of_row h rfl rfl
  case buf => cases hw; exact framed_of_pkgObj rfl h
  case uuid =>
    cases hw
    unfold Aml.enc at h
    obtain ⟨d, _, h⟩ := Option.bind_eq_some_iff.mp h
    exact framed_of_pkgObj rfl h
  case rt =>
    cases hw
    obtain ⟨d, _, h⟩ := rt_enc_some h
    exact framed_of_pkgObj rfl h
  all_goals cases hw

/-- **C07 (every call site)**: whatever the node — any operator, any arguments, any children —
    if the encoder does not refuse, the object passes the PkgLength oracle: for the sixteen
    length-prefixed constructors the PkgLength after the opcode decodes to exactly the rest of the
    object and is minimal; for all other constructors the oracle has nothing to check. -/
theorem object_pkglength (op : Op) (ints : List Nat) (blobs : List Bytes) (kids : AmlList) (bs : Bytes)
    (h : (Aml.node op ints blobs kids).enc = some bs) : c07Object op bs = none := by
  cases hw : pkgLenOpcodeWidth op with
  | none => unfold c07Object; rw [hw]
  | some w => exact c07Object_of_framed hw (object_framed op ints blobs kids bs w hw h)

/-- **C07 (field entries)**: a named entry is its 4-byte name followed by the exclusive
    PkgLength of its width, a reserved entry `00` followed by it; the width decodes back. -/
theorem field_entry_width (named : Bool) (nm : Bytes) (bits : Nat) (bs rest : Bytes)
    (hn : nm.length = 4)
    (h : (Aml.node (if named then .fnamed else .freserved) [bits] [nm] .nil).enc = some bs) :
    Spec.PkgLength.decode ((bs ++ rest).drop (if named then 4 else 1)) = some (bits, pkgLenWidth bits) := by
  obtain ⟨hp, rfl⟩ := fentry_enc_some h
  rw [List.append_assoc, List.drop_left' (by cases named; rfl; exact hn)]
  exact C07.decode_pkgLen_excl bits rest hp

/-- non-vacuity: a Method with a body is accepted and framed -/
example : ∃ bs, (Aml.node .method [2, 1] [[0x4D, 0x54, 0x48, 0x44]] (.cons (.node .one [] [] .nil) .nil)).enc = some bs ∧
    c07Object .method bs = none := by
  cases h : (Aml.node .method [2, 1] [[0x4D, 0x54, 0x48, 0x44]] (.cons (.node .one [] [] .nil) .nil)).enc with
  | none => exact absurd h (by decide)
  | some bs => exact ⟨bs, rfl, object_pkglength _ _ _ _ bs h⟩

end Acpi.C07
