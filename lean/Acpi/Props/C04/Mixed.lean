/-
  C04, mixed programs: every modelled entry sits in the final image as its own reference encoding
  even when opaque entries surround it, and every opaque entry's bytes sit there verbatim.
-/
import Acpi.Tables.Mixed
import Acpi.Props.C05.Mixed
import Acpi.Lemmas.Mixed
namespace Acpi.C04
open Spec

/-- **C04 (mixed programs)**: in every non-panicking mixed program (modelled entries within their
    Rust types, not RDPAS, QoS-controller constructor arguments well formed — the hypotheses of
    `whole_entries_conform`; nothing asked of the opaque entries), at the offset its add call
    returned the final image holds
    * for a modelled call: exactly the reference encoding of that entry (`layoutOracle` finds no
      deviation), whatever opaque entries were added before or after it;
    * for an opaque call: its bytes, verbatim. -/
theorem mixed_entries_in_place (T : TableId) (o : Oem) (ho : C02.OemWf o) (ops : List MOp)
    (hwf : ∀ op, MOp.modelled op ∈ ops → op.k ≠ .rdpas ∧ entryWf op.k op.ctor op.opts = true ∧
      (op.k = .qosctrl → qosCtorWf op.ctor))
    (hs : List Nat) (t : Tbl) (h : runMixed T o ops = some (hs, t)) :
    ∀ i (hi : i < ops.length), ∃ hnd, hs[i]? = some hnd ∧
      (∀ op, ops[i] = .modelled op → ∃ a, buildEntry op.k op.ctor op.opts = .ok a ∧
        layoutOracle op.k op.ctor op.opts
          ((t.image.drop hnd).take (entryBytes op.k a).length) = none) ∧
      (∀ raw, ops[i] = .opaque raw → (t.image.drop hnd).take raw.length = raw) := by
  obtain ⟨hacc, -⟩ := Mixed.runMixed_some h
  obtain ⟨-, hh⟩ := C05.mixed_handles T o ho ops
    (fun op hop => ⟨(hwf op hop).1, (hwf op hop).2.1⟩) hs t h
  intro i hi
  obtain ⟨hnd, e1, e2, e3⟩ := hh i hi
  refine ⟨hnd, e1, fun op hop => ?_, e3⟩
  obtain ⟨a, ha, e⟩ := e2 op hop
  have hmem : MOp.modelled op ∈ ops := hop ▸ List.getElem_mem hi
  obtain ⟨-, w2, w3⟩ := hwf op hmem
  have hged := Whole.ne_ged (hacc op hmem)
  refine ⟨a, ha, ?_⟩
  rw [e]
  exact entry_conforms op.k op.ctor op.opts a hged w2 w3 ha

/-- non-vacuity: the MADT program GICC, 12 opaque bytes, GICD satisfies the hypotheses (it runs,
    with handles 44, 126, 138: see C05/Mixed) -/
example : C02.OemWf Mixed.exOem ∧
    (∀ op, MOp.modelled op ∈ Mixed.exProg → op.k ≠ .rdpas ∧ entryWf op.k op.ctor op.opts = true ∧
      (op.k = .qosctrl → qosCtorWf op.ctor)) ∧
    (runMixed (.madt 0) Mixed.exOem Mixed.exProg).map (·.1) = some [44, 126, 138] := by
  refine ⟨⟨rfl, rfl⟩, fun op hop => ?_, by decide +kernel⟩
  simp only [Mixed.exProg, List.mem_cons, MOp.modelled.injEq, reduceCtorEq, List.not_mem_nil,
    or_false, false_or] at hop
  rcases hop with rfl | rfl <;> exact ⟨by decide, by decide +kernel, nofun⟩

end Acpi.C04
