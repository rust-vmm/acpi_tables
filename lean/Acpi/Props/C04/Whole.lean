/-
  C04, whole tables: the part of the image before the first entry is the reference encoding of
  the table head, and every entry sits in the image as its own reference encoding.
-/
import Acpi.Tables.Whole
import Acpi.Props.C04
import Acpi.Props.C05.Whole
import Acpi.Lemmas.Whole
namespace Acpi.C04
open Spec

/-- one table of `whole_head_conforms`: the reference rows are those of `tableHeadRows`, they
    tile `[36, total)` and render to the engine's `pre ++ count ++ post` -/
local macro "head_case " n:num ", " hcfg:ident ", " aux:ident : tactic =>
  `(tactic| (
    refine ⟨$n, _, rfl, rfl, ?_⟩
    rw [$hcfg:ident] at $aux:ident ⊢
    refine $aux _ _ ?_ ?_
    · rfl
    · simp [TableId.cfg, TableId.ctor, cfgXSDT, cfgMCFG, cfgMADT, cfgSRAT, cfgHMAT, cfgPPTT, cfgCEDT, cfgRHCT, cfgRIMT,
        cfgVIOT, cfgHEST, cfgRQSC, render, Row.bytes, res, zeros, List.replicate, leN, u16le_eq_leN,
        u32le_eq_leN, u64le_eq_leN]))

set_option linter.unusedSimpArgs false in
/-- **C04 (table heads)**: for every table, after every non-panicking program, the bytes before
    the first entry are exactly the reference encoding of the table head: signature, Length,
    revision, checksum, OEM fields, creator id and revision, the table's own fixed fields
    (MADT controller address and flags, the SRAT's must-be-one dword, reserved fields zero,
    RHCT/RIMT/VIOT array offsets) and the entry count — with the Length, checksum and count
    being whatever the engine holds (C01/C02/C03 say what they are). -/
theorem whole_head_conforms (T : TableId) (o : Oem) (ho : C02.OemWf o) (ops : List AddOp)
    (hs : List Nat) (t : Tbl) (h : runTable T o ops = some (hs, t)) :
    ∃ total rows, tableHeadRows T.name o T.ctor t.length.toNat t.cfg.rev.toNat t.hdrCks.toNat t.count = some (total, rows) ∧
      total = Tbl.firstOffset T.cfg ∧ conforms total rows t.head = none := by
  obtain ⟨-, bs, -, hr⟩ := Whole.runTable_eq_some.mp h
  have hcfg : t.cfg = T.cfg := (Ran.of_run hr).cfg
  have hoem : t.oem = o := (Ran.of_run hr).oem
  have hsig : t.cfg.sig.length = 4 := hcfg ▸ Whole.sig_length T
  have hid : t.oem.id.length = 6 := hoem ▸ ho.1
  have htb : t.oem.table.length = 8 := hoem ▸ ho.2
  have aux := fun total rows => Whole.head_conforms t total rows hsig hid htb
  rw [hoem] at aux
  cases T with
  | xsdt => head_case 36, hcfg, aux
  | mcfg => head_case 44, hcfg, aux
  | madt l => head_case 44, hcfg, aux
  | srat => head_case 48, hcfg, aux
  | hmat => head_case 40, hcfg, aux
  | pptt => head_case 36, hcfg, aux
  | cedt => head_case 36, hcfg, aux
  | rhct tb => head_case 56, hcfg, aux
  | rimt => head_case 48, hcfg, aux
  | viot => head_case 48, hcfg, aux
  | hest => head_case 40, hcfg, aux
  | rqsc => head_case 40, hcfg, aux

/-- **C04 (whole tables)**: every entry of a non-panicking program sits in the final image, at
    the offset its add call returned, as exactly its reference encoding. -/
theorem whole_entries_conform (T : TableId) (o : Oem) (ho : C02.OemWf o) (ops : List AddOp)
    (hwf : ∀ op ∈ ops, op.k ≠ .rdpas ∧ entryWf op.k op.ctor op.opts = true ∧
      (op.k = .qosctrl → qosCtorWf op.ctor))
    (bs : List (Kind × EArgs)) (hb : buildAll ops = some bs)
    (hs : List Nat) (t : Tbl) (h : runTable T o ops = some (hs, t)) :
    ∀ i (hi : i < ops.length), ∃ hnd a, hs[i]? = some hnd ∧ bs[i]? = some (ops[i].k, a) ∧
      layoutOracle ops[i].k ops[i].ctor ops[i].opts
        ((t.image.drop hnd).take (entryBytes ops[i].k a).length) = none := by
  obtain ⟨hacc, -⟩ := Whole.runAdds_of_runTable hb h
  obtain ⟨hl, hget⟩ := Whole.buildAll_spec ops bs hb
  obtain ⟨-, hh⟩ := C05.whole_handles T o ho ops (fun op hop => ⟨(hwf op hop).1, (hwf op hop).2.1⟩)
    bs hb hs t h
  intro i hi
  have hib : i < bs.length := hl ▸ hi
  obtain ⟨h1, h2⟩ := hget i hi hib
  obtain ⟨hnd, e1, e2⟩ := hh i hib
  obtain ⟨-, w2, w3⟩ := hwf ops[i] (List.getElem_mem hi)
  have hged := Whole.ne_ged (hacc ops[i] (List.getElem_mem hi))
  rw [h1] at e2
  refine ⟨hnd, bs[i].2, e1, ?_, ?_⟩
  · rw [List.getElem?_eq_getElem hib, ← h1]
  · rw [e2]
    exact entry_conforms ops[i].k ops[i].ctor ops[i].opts bs[i].2 hged w2 w3 h2

end Acpi.C04
