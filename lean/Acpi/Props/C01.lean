/-
  C01 — every emitted static table carries a valid ACPI checksum.
  Part 1 (`tbl_sum_zero`): the generic incremental engine, for arbitrary entry bytes.
-/
import Acpi.Tbl
import Acpi.Lemmas.Tbl
namespace Acpi.C01

/-- **C01 (engine)**: after construction and after every prefix of every add history —
    whatever the entries' bytes and whatever lengths are claimed for them, so in particular
    across the 255→256 and 65535→65536 carries of the Length and count fields — the image
    sums to zero. (A prefix of a history is itself a history, so "every prefix" is this
    statement applied to the prefix.) -/
theorem tbl_sum_zero (c : TblCfg) (o : Oem) (es : List (Bytes × Nat)) (hs : List Nat) (t : Tbl)
    (h : runAdds (Tbl.new c o) es = some (hs, t)) : sum8 t.image = 0 :=
  CksInv_sum t ((Ran.of_run h).cks (CksInv_new c o))

/-- non-vacuity: a VIOT-shaped table with two entries -/
example : ∃ hs t, runAdds (Tbl.new cfgVIOT ⟨[1,2,3,4,5,6], [1,2,3,4,5,6,7,8], 7⟩)
    [([3, 0, 16, 0, 9, 9], 16), ([4, 0, 16, 0], 16)] = some (hs, t) :=
  ⟨_, _, rfl⟩

end Acpi.C01
