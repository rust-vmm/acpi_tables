/-
  C12 — the HMAT reference cell function (the `cell i j` of `Spec.rows .loc`, the reference that
  `C12.hmat_locality` compares the structure with) obeys the "last value assigned" step law, and
  the reference really places it at byte offset 32 + 4I + 4T + 2(i·T + j) — stride T, the number
  of targets.
-/
import Acpi.Props.C12
namespace Acpi.C12
open Spec

/-- the cell function of the `.loc` reference layout, as a definition of its own -/
def hmatCell (opts : List Opt) (i j : Nat) : Nat :=
  (((opts.filter (fun o => o.name = "sete" ∧ o.arg 0 = i ∧ o.arg 1 = j)).getLast?).map (·.arg 2)).getD 0xFFFF

/-- **link**: the reference layout of a locality structure with I initiators and T targets holds,
    for every in-range (i, j), the row "hmatCell i j, two bytes, at 32 + 4I + 4T + 2(i·T + j)" -/
theorem hmatCell_in_reference (c : EArgs) (opts : List Opt) (i j : Nat) (hi : i < c.num 4) (hj : j < c.num 5) :
    ∃ total rs, rows .loc c opts = some (total, rs) ∧
      Row.num (32 + 4 * c.num 4 + 4 * c.num 5 + 2 * (i * c.num 5 + j)) 2 (hmatCell opts i j) ∈ rs := by
  refine ⟨_, _, rfl, ?_⟩
  simp only [List.mem_append, List.mem_flatMap, List.mem_map, List.mem_range]
  exact Or.inr ⟨i, hi, j, hj, rfl⟩

theorem hmatCell_nil (i j : Nat) : hmatCell [] i j = 0xFFFF := rfl

/-- one more `set_entry_value a b v`: cell (a, b) takes the value, every other cell keeps its own -/
theorem hmatCell_append_sete (opts : List Opt) (a b v i j : Nat) :
    hmatCell (opts ++ [⟨"sete", [a, b, v]⟩]) i j = if a = i ∧ b = j then v else hmatCell opts i j := by
  unfold hmatCell
  rw [Builder.last_snoc]
  simp [Opt.arg]

/-- flag calls and initiator / target writes disturb no cell -/
theorem hmatCell_append_other (opts : List Opt) (op : Opt) (hop : op.name ≠ "sete") (i j : Nat) :
    hmatCell (opts ++ [op]) i j = hmatCell opts i j := by
  unfold hmatCell
  rw [Builder.last_snoc, if_neg (by simp [hop])]

/-- non-vacuity: (1,0)←7, (0,1)←9, (1,0)←8 on a 2×3 structure -/
example : hmatCell [⟨"sete", [1, 0, 7]⟩, ⟨"sete", [0, 1, 9]⟩, ⟨"sete", [1, 0, 8]⟩] 1 0 = 8 ∧
    hmatCell [⟨"sete", [1, 0, 7]⟩, ⟨"sete", [0, 1, 9]⟩, ⟨"sete", [1, 0, 8]⟩] 0 1 = 9 ∧
    hmatCell [⟨"sete", [1, 0, 7]⟩, ⟨"sete", [0, 1, 9]⟩, ⟨"sete", [1, 0, 8]⟩] 1 1 = 0xFFFF := by decide

end Acpi.C12
