/-
  C04 (with C11) for the MADT interrupt-controller structures with builder calls (GICC, GIC MSI
  frame): for every well-formed builder program the serialised entry is the reference encoding
  of Acpi.Spec.Layout.  The other MADT kinds are arms of `entry_conforms`.
-/
import Acpi.Lemmas.Builder
namespace Acpi.C04
open Spec Builder

/-! ### GICC: `pi`, `mi` (a value, and a flag when the mode argument is 0), `set` -/

theorem gicc_step (s : EArgs) (o : Opt) (s' : EArgs) (hs : s.n.size = 15) (hw : optWf .gicc o = true)
    (h : applyOpt .gicc s o = some s') :
    s'.n.size = 15 ∧
    s'.num 0 = s.num 0 ||| ((if o.name = "pi" ∧ o.arg 1 = 0 then 2 else 0) |||
      (if o.name = "mi" ∧ o.arg 1 = 0 then 4 else 0)) ∧
    s'.num 4 = (if o.name = "pi" then o.arg 0 else s.num 4) ∧
    s'.num 9 = (if o.name = "mi" then o.arg 0 else s.num 9) ∧
    ∀ j, 0 ≠ j → 4 ≠ j → 9 ≠ j →
      s'.num j = if o.name = "set" ∧ o.arg 0 = j then o.arg 1 else s.num j := by
  have hn := name_mem h
  obtain ⟨nm, v⟩ := o
  simp only [optNames, List.mem_cons, List.mem_nil_iff, or_false] at hn
  rcases hn with rfl | rfl | rfl <;> obtain rfl := Option.some.inj h
  · by_cases hv : Opt.arg ⟨"pi", v⟩ 1 = 0 <;> simp +contextual [hv, num_setNum, num_orNum, hs]
  · by_cases hv : Opt.arg ⟨"mi", v⟩ 1 = 0 <;> simp +contextual [hv, num_setNum, num_orNum, hs]
  · -- a well-formed `set` addresses none of the slots 0, 4, 9
    have hm := optWf_set hw rfl
    simp only [settableSlots, List.mem_cons, List.mem_nil_iff, or_false] at hm
    have : Opt.arg ⟨"set", v⟩ 0 ≠ 0 ∧ Opt.arg ⟨"set", v⟩ 0 ≠ 4 ∧ Opt.arg ⟨"set", v⟩ 0 ≠ 9 ∧
        Opt.arg ⟨"set", v⟩ 0 < 15 := by omega
    simp [num_setNum, hs, this]

theorem gicc_slots {opts : List Opt} {s a : EArgs} (hs : s.n.size = 15)
    (hw : ∀ o ∈ opts, optWf .gicc o = true) (h : applyOpts .gicc s opts = .ok a) :
    a.num 0 = s.num 0 ||| ((if opts.any (fun o => o.name = "pi" ∧ o.arg 1 = 0) then 2 else 0) |||
      (if opts.any (fun o => o.name = "mi" ∧ o.arg 1 = 0) then 4 else 0)) ∧
    a.num 4 = lastVal opts "pi" 0 (s.num 4) ∧ a.num 9 = lastVal opts "mi" 0 (s.num 9) ∧
    ∀ j, 0 ≠ j → 4 ≠ j → 9 ≠ j → a.num j = lastSet opts j (s.num j) := by
  refine ⟨?_, slot_lastVal hs hw h gicc_step "pi" 0 (·.2.1), slot_lastVal hs hw h gicc_step "mi" 0 (·.2.2.1),
    fun j h0 h4 h9 => slot_lastSet hs hw h gicc_step (·.2.2.2 j h0 h4 h9)⟩
  have := slot_or hs hw h gicc_step _ (·.1)
  rw [foldl_or_or0] at this
  have e1 := foldl_or_any (fun o => decide (o.name = "pi" ∧ o.arg 1 = 0)) 2 opts
  have e2 := foldl_or_any (fun o => decide (o.name = "mi" ∧ o.arg 1 = 0)) 4 opts
  simp only [decide_eq_true_eq] at e1 e2
  rw [this, e1, e2]

theorem conforms_gicc (c : EArgs) (opts : List Opt) (a : EArgs)
    (hwf : entryWf .gicc c opts = true) (h : buildEntry .gicc c opts = .ok a) :
    layoutOracle .gicc c opts (entryBytes .gicc a) = none := by
  obtain ⟨-, hw, -, ha, -⟩ := build_unpack hwf h
  obtain ⟨h0, h4, h9, hset⟩ := gicc_slots (s := init .gicc c) rfl hw ha
  have hinit := num_writes_zero (N := 15) (a := init .gicc c)
    (ws := [(0, if c.num 0 = 1 then 1 else if c.num 0 = 2 then 8 else 0, false)]) rfl (by simp) (by simp)
  simp only [hinit] at h0 h4 h9 hset
  -- the constructor's status bit (1 or 8) and the two mode bits (2, 4) are distinct
  have hflags : a.num 0 = (if c.num 0 = 1 then 1 else 0) + (if c.num 0 = 2 then 8 else 0) +
      (if opts.any (fun o => o.name = "pi" ∧ o.arg 1 = 0) then 2 else 0) +
      (if opts.any (fun o => o.name = "mi" ∧ o.arg 1 = 0) then 4 else 0) := by
    rw [h0, show lookupWrite _ 0 = some _ from rfl, upd_set]
    generalize opts.any (fun o => decide (o.name = "pi" ∧ o.arg 1 = 0)) = b1
    generalize opts.any (fun o => decide (o.name = "mi" ∧ o.arg 1 = 0)) = b2
    by_cases h1 : c.num 0 = 1
    · cases b1 <;> cases b2 <;> simp [h1]
    · by_cases h2 : c.num 0 = 2
      · cases b1 <;> cases b2 <;> simp [h2]
      · cases b1 <;> cases b2 <;> simp [h1, h2]
  unfold layoutOracle rows
  apply conforms_of_eq
  · simp [tilesFrom, Row.off, Row.width, res]
  · simp [layout, hflags, h4, h9, hset, lookupWrite]

/-! ### GIC MSI frame: `set` on slots 0, 1; `spi` stores its two arguments and raises the flag -/

/-- what one call stores in slot `i` -/
def gicmsiWrite (o : Opt) (i : Nat) : Option (Nat × Bool) :=
  if o.name = "set" ∧ i ∈ settableSlots .gicmsi ∧ o.arg 0 = i then some (o.arg 1, false)
  else if o.name = "spi" ∧ i = 3 then some (o.arg 0, false)
  else if o.name = "spi" ∧ i = 4 then some (o.arg 1, false)
  else if o.name = "spi" ∧ i = 2 then some (1, false)
  else none

theorem gicmsi_step (s : EArgs) (o : Opt) (s' : EArgs) (hw : optWf .gicmsi o = true)
    (h : applyOpt .gicmsi s o = some s') : Writes 5 (gicmsiWrite o) s s' := by
  have hn := name_mem h
  obtain ⟨nm, v⟩ := o
  simp only [optNames, List.mem_cons, List.mem_nil_iff, or_false] at hn
  rcases hn with rfl | rfl <;> obtain rfl := Option.some.inj h
  · exact .set (by decide) hw rfl s fun i => by simp [gicmsiWrite]
  · exact ⟨[(3, Opt.arg ⟨"spi", v⟩ 0, false), (4, Opt.arg ⟨"spi", v⟩ 1, false), (2, 1, false)], rfl, by simp,
      by simp, fun i => by simp [gicmsiWrite, lookupWrite]⟩

theorem conforms_gicmsi (c : EArgs) (opts : List Opt) (a : EArgs)
    (hwf : entryWf .gicmsi c opts = true) (h : buildEntry .gicmsi c opts = .ok a) :
    layoutOracle .gicmsi c opts (entryBytes .gicmsi a) = none := by
  obtain ⟨-, hw, -, ha, -⟩ := build_unpack hwf h
  have hnum := slot_writes gicmsi_step (s := init .gicmsi c) rfl hw ha
  unfold layoutOracle rows
  apply conforms_of_eq
  · simp [tilesFrom, Row.off, Row.width, res]
  · simp [layout, hnum, gicmsiWrite, upd_ite, foldl_lastVal, foldl_lastSet, foldl_mark, settableSlots, bit]

end Acpi.C04
