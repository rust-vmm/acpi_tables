/-
  C03 for single entries: an image conforming to rows that carry the header its table's walker
  reads is self-describing (`sd_of_conforms`), and the reference rows of every kind that belongs
  to a table carry it (`entry_header`).  For the kinds of fixed size the total is a literal; for
  the others it fits its field because serialisation refuses otherwise (`Inst.total_le`) — or,
  for the 4-byte length of the HMAT locality structure, because the entry is below 4 GiB
  (hypothesis).
-/
import Acpi.Spec.Codes
import Acpi.Lemmas.Inst
import Acpi.Props.C03
namespace Acpi.Inst
open Spec C03

/-- where a walker of style `wk` reads the type, and the length: (offset, width) -/
def tyAt : WalkKind → Option (Nat × Nat)
  | .t8l8 | .t8l16 => some (0, 1) | .t16l32 | .t16l16 | .hest => some (0, 2) | .fixed _ => none
def lenAt : WalkKind → Option (Nat × Nat)
  | .t8l8 => some (1, 1) | .t16l32 => some (4, 4) | .t16l16 | .t8l16 => some (2, 2) | .hest | .fixed _ => none

/-- what the header does not say itself: a HEST size follows from the type; a headerless entry has
    the size of its style and type 0 -/
def hdrSide : WalkKind → Nat → Nat → Prop
  | .hest, ty, len => hestSize ty = some len
  | .fixed n, ty, len => len = n ∧ ty = 0 ∧ 0 < n
  | _, _, _ => True

instance (wk : WalkKind) (ty len : Nat) : Decidable (hdrSide wk ty len) := by
  unfold hdrSide; split <;> infer_instance

/-- the rows hold type `ty` and `total` where a walker of style `wk` reads them, both fitting
    their fields -/
structure CarriesHeader (wk : WalkKind) (ty total : Nat) (rs : List Row) : Prop where
  type : ∀ o w, tyAt wk = some (o, w) → numAt rs o w = some ty ∧ ty < 256 ^ w
  length : ∀ o w, lenAt wk = some (o, w) → numAt rs o w = some total ∧ total < 256 ^ w
  side : hdrSide wk ty total

theorem sd_of_conforms {total : Nat} {rs : List Row} {img : Bytes} (h : conforms total rs img = none)
    {wk : WalkKind} {ty : Nat} (hh : CarriesHeader wk ty total rs) : SelfDescribing wk ty img := by
  obtain ⟨hty, hlen, hs⟩ := hh
  have hl := conforms.length h
  have rd : ∀ {o w v}, numAt rs o w = some v ∧ v < 256 ^ w → readAt img o w = some v ∧ o + w ≤ total :=
    fun hv => ⟨conforms.at_lt h hv.1 hv.2, conforms.le h (mem_of_numAt hv.1)⟩
  unfold SelfDescribing
  rw [hl]
  cases wk with
  | fixed n =>
    obtain ⟨rfl, rfl, hn⟩ := hs
    exact ⟨by rw [entryHdr, hl, if_pos (Nat.le_refl _)], Nat.le_refl _, hn⟩
  | hest =>
    obtain ⟨r0, b0⟩ := rd (hty _ _ rfl)
    refine ⟨?_, by simp only [hdrSize]; omega, by omega⟩
    simp only [entryHdr, r0]
    show (hestSize ty).bind _ = _
    rw [show hestSize ty = some total from hs]; rfl
  | _ =>
    obtain ⟨r0, -⟩ := rd (hty _ _ rfl)
    obtain ⟨r1, b1⟩ := rd (hlen _ _ rfl)
    exact ⟨by simp only [entryHdr, r0, r1]; rfl, by simp only [hdrSize]; omega, by omega⟩

/-- a 4-byte length field cannot announce 4 GiB or more -/
theorem length_lt_of_sd_t16l32 (ty : Nat) (raw : Bytes) (h : SelfDescribing .t16l32 ty raw) :
    raw.length < 2 ^ 32 := by
  obtain ⟨h1, -, -⟩ := h
  simp only [entryHdr, Option.bind_eq_bind, Option.bind_eq_some_iff, Option.some.injEq, Prod.mk.injEq] at h1
  obtain ⟨-, -, l, h4, -, rfl⟩ := h1
  exact readAt_lt h4

theorem typeCode_of_ne (k : Kind) (a : EArgs) (h : k ≠ .qosctrl) : typeCode k a = typeCodeConst k :=
  if_neg h

/-- the kinds with a length field differ only in why the total fits it (`hfit`) -/
theorem header_of_fit {k : Kind} {wk : WalkKind} {c : EArgs} {opts : List Opt} {total : Nat} {rs : List Row}
    {to tw lo lw : Nat} (hr : rows k c opts = some (total, rs))
    (hT : tyAt wk = some (to, tw)) (hL : lenAt wk = some (lo, lw))
    (ht : numAt rs to tw = some (typeCodeConst k) ∧ typeCodeConst k < 256 ^ tw)
    (hl : numAt rs lo lw = some total) (hfit : total < 256 ^ lw) :
    ∃ total rs, rows k c opts = some (total, rs) ∧ CarriesHeader wk (typeCodeConst k) total rs :=
  ⟨total, rs, hr, fun _ _ e => by cases hT.symm.trans e; exact ht,
    fun _ _ e => by cases hL.symm.trans e; exact ⟨hl, hfit⟩, by cases wk <;> first | trivial | cases hL⟩

/-- HYPOTHESIS `h32` (HMAT locality structure only): the structure is smaller than 4 GiB (the model
    puts no bound on the numbers of initiators and targets, and the Length field has 4 bytes).
    RDPAS is the recorded finding; the RQSC controller announces a caller-supplied type
    (`sd_qosctrl`). -/
theorem entry_header (k : Kind) (hk : k ≠ .rdpas) (hq : k ≠ .qosctrl) (wk : WalkKind)
    (hw : walkKindOf k = some wk) (c : EArgs) (opts : List Opt) (a : EArgs)
    (hwf : entryWf k c opts = true) (h : buildEntry k c opts = .ok a)
    (h32 : k = .loc → (entryBytes k a).length < 2 ^ 32) :
    ∃ total rs, rows k c opts = some (total, rs) ∧ CarriesHeader wk (typeCodeConst k) total rs := by
  cases k <;> cases hw
  case rdpas => exact absurd rfl hk
  case qosctrl => exact absurd rfl hq
  case loc =>
    have hl := conforms.length (entry_rows (by decide) hwf nofun h rfl)
    exact header_of_fit rfl rfl rfl ⟨rfl, by decide⟩ rfl (hl ▸ h32 rfl)
  case proc | msc | hart | cxims | isa | iommu | pcierc | platform | cfmws =>
    all_goals
      have := total_le _ (by decide) hwf h rfl
      simp only [maxTotal] at this
      exact header_of_fit rfl rfl rfl ⟨rfl, by decide⟩ rfl (by omega)
  all_goals
    exact ⟨_, _, rfl, by rintro _ _ ⟨⟩ <;> exact ⟨rfl, by decide⟩,
      by rintro _ _ ⟨⟩ <;> exact ⟨rfl, by decide⟩, by decide⟩

/-- one RQSC resource announces its type and its own length (if the length fits 16 bits, which
    `ResourceStructure::new` asserts) -/
theorem sd_qosRes (t : List Nat) (blob : Bytes) (hlen : qosResLen t blob ≤ 65535) :
    SelfDescribing .t8l16 (t.getD 0 0 % 256) (encFields (qosResFields t blob)) := by
  have hl : (encFields (qosResFields t blob)).length = qosResLen t blob := by
    rw [length_encFields]
    simp only [qosResFields, qosResLen, fieldsLen_append, fieldsLen_cons, Inst.fieldsLen_nil,
      Fld.width]
  have h0 : readAt (encFields (qosResFields t blob)) 0 1 = some (t.getD 0 0 % 256) := by
    have := readAt_mid_leN [] (encFields ([b8 0, w16 (qosResLen t blob), w16 (t.getD 1 0), b8 0] ++ qosResPayload t blob))
      0 1 (t.getD 0 0) rfl
    simpa [qosResFields, encFields_cons, Fld.bytes] using this
  have h2 : readAt (encFields (qosResFields t blob)) 2 2 = some (qosResLen t blob) := by
    have := readAt_mid_leN (encFields [b8 (t.getD 0 0), b8 0])
      (encFields ([w16 (t.getD 1 0), b8 0] ++ qosResPayload t blob)) 2 2 (qosResLen t blob) rfl
    rw [Nat.mod_eq_of_lt (by omega)] at this
    simpa [qosResFields, encFields_cons, encFields, Fld.bytes] using this
  refine ⟨?_, ?_, ?_⟩
  · simp only [entryHdr, h0, h2, hl]; rfl
  · rw [hl]; simp only [hdrSize, qosResLen]; omega
  · rw [hl]; simp only [qosResLen]; omega

/-- HYPOTHESIS `hty`: the controller type fits its one-byte field (in the crate it is a
    two-variant enum; the model's constructor argument is an unconstrained number) -/
theorem sd_qosctrl (c : EArgs) (opts : List Opt) (a : EArgs)
    (hwf : entryWf .qosctrl c opts = true) (hq : C04.qosCtorWf c)
    (h : buildEntry .qosctrl c opts = .ok a) (hty : a.num 0 < 256) :
    SelfDescribing .t8l16 (typeCode .qosctrl a) (entryBytes .qosctrl a) := by
  have hc := entry_rows (by decide) hwf (fun _ => hq) h (C04.rows_qosctrl c opts)
  obtain ⟨rfl, hcp, -⟩ := Builder.build_noCalls_init (fun _ _ => rfl) (fun _ => rfl) h
  simp only [ctorPanics, Bool.or_eq_false_iff] at hcp
  have := of_decide_eq_false hcp.2
  exact sd_of_conforms hc ⟨by rintro _ _ ⟨⟩; exact ⟨rfl, hty⟩, by rintro _ _ ⟨⟩; exact ⟨rfl, by omega⟩, trivial⟩

end Acpi.Inst
