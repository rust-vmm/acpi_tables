import Lean.Meta.Tactic.Simp.RegisterCommand

/-- unfolds "the model's fields render to the reference rows" down to `leN` of the values and
    literal zero bytes -/
register_simp_attr layout
