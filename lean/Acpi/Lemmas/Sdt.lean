/-
  Lemmas for C13, function by function: `write_bytes`, `append<T>`, `append_slice`, the sink and
  `new` of the model (Acpi/Sdt.lean) are the write, append, push and create of the reference
  machine (Acpi/Spec/Sdt.lean); before them the reference machine's own pointwise overwrite
  `put` and checksum fix-up `fixSum`, after them its Length field and its agreement with a plain
  vector.  Lemmas about `append` and `step` of the reference machine carry `spec_` in the name,
  since the model has operations of those names too.
-/
import Acpi.Sdt
import Acpi.Spec.Sdt
import Acpi.Lemmas.Basic
import Acpi.Lemmas.Sink
namespace Acpi
namespace Sdt
open Spec.Sdt (put fixSum agree)

/-! ### `put` -/

@[simp] theorem length_put (v : Bytes) (off : Nat) (bs : Bytes) : (put v off bs).length = v.length := by
  simp [put]

theorem getElem?_put (v : Bytes) (off : Nat) (bs : Bytes) (i : Nat) :
    (put v off bs)[i]? =
      if off ≤ i ∧ i < off + bs.length ∧ i < v.length then bs[i - off]? else v[i]? := by
  simp only [put, List.getElem?_mapIdx, List.getD_eq_getElem?_getD]
  grind

theorem patch_eq_put (img : Bytes) (off : Nat) (bs : Bytes) (h : off + bs.length ≤ img.length) :
    patch img off bs = put img off bs := by
  apply List.ext_getElem?
  intro i
  simp only [getElem?_put, patch, List.getElem?_append, List.getElem?_take, List.getElem?_drop,
    List.length_append, List.length_take]
  grind

theorem set_eq_put (l : Bytes) (i : Nat) (x : UInt8) : l.set i x = put l i [x] := by
  apply List.ext_getElem?
  intro j
  rw [getElem?_put, List.getElem?_set]
  grind

theorem put_nil (v : Bytes) (off : Nat) : put v off [] = v := by
  apply List.ext_getElem?
  intro i
  rw [getElem?_put, if_neg (by simp only [List.length_nil]; omega)]

/-! ### `fixSum` -/

theorem fixSum_eq_set (v : Bytes) : fixSum v = v.set 9 (0 - sum8 (v.set 9 0)) := by
  simp only [fixSum, ← set_eq_put, List.set_set]

@[simp] theorem length_fixSum (v : Bytes) : (fixSum v).length = v.length := by
  simp [fixSum]

theorem sum8_fixSum (v : Bytes) (h : 9 < v.length) : sum8 (fixSum v) = 0 := by
  have h1 := sum8_set_add (v.set 9 0) 9 (0 - sum8 (v.set 9 0)) (by rwa [List.length_set])
  rw [List.set_set, List.getElem_set_self, ← fixSum_eq_set] at h1
  grind

theorem getElem?_fixSum (X : Bytes) {i : Nat} (h : i ≠ 9) : (fixSum X)[i]? = X[i]? := by
  rw [fixSum_eq_set, List.getElem?_set_ne (Ne.symm h)]

/-- The fix-up sees only the bytes other than byte 9.  The model and the reference machine
    recompute the checksum at different moments, so their images differ in byte 9 until the
    last fix-up; this is what makes them equal after it. -/
theorem fixSum_congr {X Y : Bytes} (hl : X.length = Y.length) (h : ∀ i, i ≠ 9 → X[i]? = Y[i]?) :
    fixSum X = fixSum Y := by
  have (c : UInt8) : X.set 9 c = Y.set 9 c := by
    apply List.ext_getElem?
    intro i
    simp only [List.getElem?_set, hl]
    split
    · rfl
    · next hn => exact h i (Ne.symm hn)
  rw [fixSum_eq_set, fixSum_eq_set, this 0, this]

theorem fixSum_idem (v : Bytes) : fixSum (fixSum v) = fixSum v :=
  fixSum_congr (length_fixSum v) fun _ hi => getElem?_fixSum v hi

theorem fixSum_of_sum_zero (v : Bytes) (h : 9 < v.length) (hs : sum8 v = 0) : fixSum v = v := by
  have h1 := sum8_set_add v 9 0 h
  have hc : (0 : UInt8) - sum8 (v.set 9 0) = v[9] := by grind
  rw [fixSum_eq_set, hc, List.set_getElem_self]

/-! ### the model's functions on the reference machine -/

theorem updateChecksum_eq (s : Sdt) : updateChecksum s = ⟨fixSum s.data⟩ := by
  simp only [updateChecksum, fixSum_eq_set, genChecksum_eq, List.set_set]

theorem writeBytes_spec (s : Sdt) (off : Nat) (bs : Bytes) :
    s.writeBytes off bs = (Spec.Sdt.step s.data (.write off bs)).map Sdt.mk := by
  simp only [writeBytes, Spec.Sdt.step]
  split
  · next h => rw [updateChecksum_eq, patch_eq_put _ _ _ h]; rfl
  · rfl

theorem resize_ge (d : Bytes) (n : Nat) (h : d.length ≤ n) :
    resize d n = d ++ zeros (n - d.length) := by
  unfold resize
  rw [List.take_of_length_le h]

@[simp] theorem length_spec_append (d v : Bytes) :
    (Spec.Sdt.append d v).length = d.length + v.length := by
  simp [Spec.Sdt.append]

/-- `append<T>`: two writes, two checksum updates = the reference machine's one append.  The
    bound: the first write puts the Length field, bytes 4..8, into the old data. -/
theorem appendT_spec (s : Sdt) (v : Bytes) (h : 8 ≤ s.data.length) :
    s.appendT v = some ⟨Spec.Sdt.append s.data v⟩ := by
  unfold appendT
  have hr : resize s.data (s.data.length + v.length) = s.data ++ zeros v.length := by
    rw [resize_ge _ _ (by omega)]; congr 2; omega
  simp only [hr, u32le_ofNat, writeBytes_spec, Spec.Sdt.step]
  rw [if_pos (by simp; omega)]
  simp only [Option.map_some, Option.bind_eq_bind, Option.bind_some]
  rw [if_pos (by simp)]
  refine congrArg (fun d => some (Sdt.mk d)) (fixSum_congr (by simp) fun i hi => ?_)
  -- away from byte 9 both sides are nested overwrites: read them at `i` and compare the ranges
  simp only [List.getElem?_append, length_fixSum, length_put, getElem?_fixSum _ hi, getElem?_put,
    List.length_append, length_leN, length_zeros]
  grind [length_zeros]

/-- `append_slice`: length written into the old data, extend, checksum = one append -/
theorem appendSlice_spec (s : Sdt) (bs : Bytes) (h : 8 ≤ s.data.length) :
    s.appendSlice bs = some ⟨Spec.Sdt.append s.data bs⟩ := by
  unfold appendSlice
  simp only [u32le_ofNat, writeBytes_spec, Spec.Sdt.step]
  rw [if_pos (by simp; omega)]
  simp only [Option.map_some, Option.bind_eq_bind, Option.bind_some, updateChecksum_eq]
  refine congrArg (fun d => some (Sdt.mk d)) (fixSum_congr (by simp) fun i hi => ?_)
  simp only [List.getElem?_append, length_fixSum, length_put, getElem?_fixSum _ hi, getElem?_put,
    List.length_append, length_leN]
  grind

/-! ### only the concatenation matters -/

theorem spec_append_append (d x y : Bytes) :
    Spec.Sdt.append (Spec.Sdt.append d x) y = Spec.Sdt.append d (x ++ y) := by
  simp only [Spec.Sdt.append, length_fixSum, length_put, List.length_append, Nat.add_assoc]
  refine fixSum_congr (by simp [Nat.add_assoc]) fun i hi => ?_
  simp only [List.getElem?_append, length_fixSum, length_put, getElem?_fixSum _ hi, getElem?_put,
    List.length_append, length_leN]
  grind

@[simp] theorem length_push (d x : Bytes) : (Spec.Sdt.push d x).length = d.length + x.length := by
  unfold Spec.Sdt.push
  split
  · next h => simp [h]
  · simp

theorem push_push (d x y : Bytes) :
    Spec.Sdt.push (Spec.Sdt.push d x) y = Spec.Sdt.push d (x ++ y) := by
  unfold Spec.Sdt.push
  by_cases hx : x = []
  · subst hx; simp
  · by_cases hy : y = []
    · subst hy; simp [hx]
    · have : x ++ y ≠ [] := by simp [hx]
      rw [if_neg hx, if_neg hy, if_neg this, spec_append_append]

theorem foldl_sinkByte_none (v : Bytes) : v.foldl sinkByte none = none := by
  induction v with
  | nil => rfl
  | cons b v ih => simpa [sinkByte] using ih

/-- per-byte appends through the sink = one push of all the bytes -/
theorem foldl_sinkByte (v : Bytes) (s : Sdt) (h : 8 ≤ s.data.length) :
    v.foldl sinkByte (some s) = some ⟨Spec.Sdt.push s.data v⟩ := by
  induction v generalizing s with
  | nil => simp [Spec.Sdt.push]
  | cons b v ih =>
    simp only [List.foldl_cons, sinkByte, Option.bind_some]
    rw [appendT_spec _ _ h]
    have := ih ⟨Spec.Sdt.append s.data [b]⟩ (by simp; omega)
    rw [this]
    have h1 : Spec.Sdt.append s.data [b] = Spec.Sdt.push s.data [b] := by simp [Spec.Sdt.push]
    rw [h1, push_push]
    rfl

theorem sink_feed1 (s : Sdt) (c : SinkCall) (h : 8 ≤ s.data.length) :
    Sdt.sink.feed1 (some s) c = some ⟨Spec.Sdt.push s.data c.bytes⟩ := by
  rw [Sdt.sink, Sink.feed1_ofByte, foldl_sinkByte _ _ h]

theorem sink_feed (cs : List SinkCall) (s : Sdt) (h : 8 ≤ s.data.length) :
    Sdt.sink.feed (some s) cs = some ⟨Spec.Sdt.push s.data (flatten cs)⟩ := by
  rw [Sdt.sink, Sink.feed_ofByte, foldl_sinkByte _ _ h]

/-! ### what a step of the reference machine returns -/

/-- An accepted step returns its input or a fixed-up vector at least as long: all that the
    invariants need to know of it. -/
theorem spec_step_shape {v v' : Bytes} {a : Spec.Sdt.Act} (h : Spec.Sdt.step v a = some v') :
    v' = v ∨ ∃ w, v.length ≤ w.length ∧ v' = fixSum w := by
  cases a with
  | append bs => exact .inr ⟨_, by simp, (Option.some.inj h).symm⟩
  | touch => exact .inr ⟨v, Nat.le_refl _, (Option.some.inj h).symm⟩
  | push bs =>
    simp only [Spec.Sdt.step, Spec.Sdt.push, Option.some.injEq] at h
    split at h
    · exact .inl h.symm
    · exact .inr ⟨_, by simp, h.symm⟩
  | write off bs =>
    simp only [Spec.Sdt.step] at h
    split at h
    · exact .inr ⟨_, by simp, (Option.some.inj h).symm⟩
    · cases h

theorem spec_step_le {v v' : Bytes} {a : Spec.Sdt.Act} (h : Spec.Sdt.step v a = some v') :
    v.length ≤ v'.length := by
  obtain rfl | ⟨w, hw, rfl⟩ := spec_step_shape h
  · exact Nat.le_refl _
  · rwa [length_fixSum]

/-! ### creation -/

/-- `new` with its two asserts spelled out.  The header `H` is a variable so that a caller
    may give it in the model's form (`u32le`) or in the reference machine's (`leN`). -/
theorem new_eq_ite (sig : Bytes) (length : UInt32) (rev : UInt8) (oemId oemTable : Bytes)
    (oemRev : UInt32) (H : Bytes)
    (hH : H = sig ++ u32le length ++ [rev] ++ [0] ++ oemId ++ oemTable ++ u32le oemRev
      ++ creatorId ++ creatorRev) :
    Sdt.new sig length rev oemId oemTable oemRev =
      if length.toNat < 36 ∨ H.length ≠ 36 then none
      else some ⟨fixSum (H ++ zeros (length.toNat - 36))⟩ := by
  have hlt : length < 36 ↔ length.toNat < 36 := UInt32.lt_iff_toNat_lt
  subst hH
  simp only [Sdt.new, hlt]
  split
  · next h => rw [if_pos (.inl h)]
  · split
    · next h => rw [if_pos (.inr h)]
    · next h1 h2 =>
      rw [if_neg (by omega), updateChecksum_eq, resize_ge _ _ (by omega), Decidable.not_not.mp h2]

theorem new_some {sig : Bytes} {length : UInt32} {rev : UInt8} {oemId oemTable : Bytes}
    {oemRev : UInt32} {s : Sdt} (h : Sdt.new sig length rev oemId oemTable oemRev = some s) :
    ∃ H, H = sig ++ u32le length ++ [rev] ++ [0] ++ oemId ++ oemTable ++ u32le oemRev
          ++ creatorId ++ creatorRev
      ∧ H.length = 36 ∧ 36 ≤ length.toNat ∧ s.data = fixSum (H ++ zeros (length.toNat - 36)) := by
  rw [new_eq_ite _ _ _ _ _ _ _ rfl] at h
  split at h
  · cases h
  · next hn =>
    have hn := not_or.mp hn
    exact ⟨_, rfl, Decidable.not_not.mp hn.2, Nat.not_lt.mp hn.1,
      (congrArg Sdt.data (Option.some.inj h)).symm⟩

theorem put_zeros (H : Bytes) (n : Nat) (h : H.length ≤ n) :
    put (List.replicate n 0) 0 H = H ++ zeros (n - H.length) := by
  apply List.ext_getElem?
  intro i
  simp only [getElem?_put, List.getElem?_append, List.length_replicate, zeros,
    List.getElem?_replicate]
  grind

theorem new_eq_create (sig : Bytes) (length : UInt32) (rev : UInt8) (oemId oemTable : Bytes)
    (oemRev : UInt32) (hs : sig.length = 4) (hi : oemId.length = 6) (ht : oemTable.length = 8) :
    (Sdt.new sig length rev oemId oemTable oemRev).map Sdt.data
      = Spec.Sdt.create sig length.toNat rev oemId oemTable oemRev.toNat := by
  generalize hHd : sig ++ leN 4 length.toNat ++ [rev, 0] ++ oemId ++ oemTable
    ++ leN 4 oemRev.toNat ++ [0x52, 0x56, 0x41, 0x54] ++ [0, 0, 0, 1] = H
  have hlen : H.length = 36 := by
    rw [← hHd]; simp [hs, hi, ht]
  rw [new_eq_ite _ _ _ _ _ _ H (by simp [← hHd, u32le_eq_leN, creatorId, creatorRev]),
    Spec.Sdt.create, hHd]
  by_cases h : length.toNat < 36
  · rw [if_pos (.inl h), if_pos h]; rfl
  · rw [if_neg (by omega), if_neg h, put_zeros H _ (by omega), hlen]; rfl

/-! ### the Length field -/

theorem readAt_fixSum (X : Bytes) (off w : Nat) (h : off + w ≤ 9) :
    readAt (fixSum X) off w = readAt X off w := by
  have : ((fixSum X).drop off).take w = (X.drop off).take w := by
    apply List.ext_getElem?
    intro i
    simp only [List.getElem?_take, List.getElem?_drop]
    split
    · exact getElem?_fixSum X (by omega)
    · rfl
  simp only [readAt, length_fixSum, this]

theorem readAt_put (X : Bytes) (off : Nat) (L : Bytes) (h : off + L.length ≤ X.length) :
    readAt (put X off L) off L.length = some (fromLE L) := by
  have : ((put X off L).drop off).take L.length = L := by
    apply List.ext_getElem?
    intro i
    simp only [List.getElem?_take, List.getElem?_drop, getElem?_put]
    split
    · rw [if_pos (by omega), Nat.add_sub_cancel_left]
    · rw [List.getElem?_eq_none (by omega)]
  rw [readAt, if_pos (by simpa using h), this]

theorem readAt_spec_append (d v : Bytes) (h : 8 ≤ d.length)
    (hlt : d.length + v.length < 2 ^ 32) :
    readAt (Spec.Sdt.append d v) 4 4 = some (d.length + v.length) := by
  have := readAt_put (d ++ v) 4 (leN 4 (d.length + v.length)) (by simp; omega)
  rw [Spec.Sdt.append, readAt_fixSum _ 4 4 (by decide)]
  simpa [fromLE_leN_of_lt (w := 4) hlt] using this

/-! ### outside the managed positions the table is a plain vector -/

theorem agree_refl (a : Bytes) : agree a a := ⟨rfl, fun _ _ => rfl⟩

theorem agree_trans {a b c : Bytes} (h1 : agree a b) (h2 : agree b c) : agree a c :=
  ⟨h1.1.trans h2.1, fun i hi => (h1.2 i hi).trans (h2.2 i hi)⟩

theorem agree_fixSum (a : Bytes) : agree (fixSum a) a :=
  ⟨length_fixSum a, fun _ hi => getElem?_fixSum a fun h9 => hi (.inr h9)⟩

theorem agree_put4 (a L : Bytes) (hL : L.length = 4) : agree (put a 4 L) a := by
  refine ⟨by simp, fun i hi => ?_⟩
  rw [getElem?_put]
  have : ¬ (4 ≤ i ∧ i < 4 + L.length ∧ i < a.length) := by omega
  rw [if_neg this]

theorem agree_append {a b : Bytes} (h : agree a b) (w : Bytes) : agree (a ++ w) (b ++ w) := by
  refine ⟨by simp [h.1], fun i hi => ?_⟩
  rw [List.getElem?_append, List.getElem?_append, h.1, h.2 i hi]

theorem agree_put {a b : Bytes} (h : agree a b) (off : Nat) (bs : Bytes) :
    agree (put a off bs) (put b off bs) := by
  refine ⟨by simp [h.1], fun i hi => ?_⟩
  rw [getElem?_put, getElem?_put, h.1, h.2 i hi]

theorem agree_spec_append {a b : Bytes} (h : agree a b) (w : Bytes) :
    agree (Spec.Sdt.append a w) (b ++ w) := by
  unfold Spec.Sdt.append
  exact agree_trans (agree_fixSum _) (agree_trans (agree_put4 _ _ (by simp)) (agree_append h w))

theorem agree_push {a b : Bytes} (h : agree a b) (w : Bytes) :
    agree (Spec.Sdt.push a w) (b ++ w) := by
  unfold Spec.Sdt.push
  split
  · next hw => subst hw; simpa using h
  · exact agree_spec_append h w

theorem agree_spec_step {v p : Bytes} (h : agree v p) (a : Spec.Sdt.Act) :
    (Spec.Sdt.step v a = none ∧ Spec.Sdt.plainStep p a = none)
    ∨ ∃ v' p', Spec.Sdt.step v a = some v' ∧ Spec.Sdt.plainStep p a = some p' ∧ agree v' p' := by
  cases a with
  | append bs => exact Or.inr ⟨_, _, rfl, rfl, agree_spec_append h bs⟩
  | touch => exact Or.inr ⟨_, _, rfl, rfl, agree_trans (agree_fixSum _) h⟩
  | push bs => exact Or.inr ⟨_, _, rfl, rfl, agree_push h bs⟩
  | write off bs =>
    simp only [Spec.Sdt.step, Spec.Sdt.plainStep, h.1]
    split
    · exact Or.inr ⟨_, _, rfl, rfl, agree_trans (agree_fixSum _) (agree_put h off bs)⟩
    · exact Or.inl ⟨rfl, rfl⟩

theorem agree_run {v p : Bytes} (h : agree v p) (acts : List Spec.Sdt.Act) :
    agree (Spec.Sdt.run v acts) (Spec.Sdt.plainRun p acts) := by
  induction acts generalizing v p with
  | nil => exact h
  | cons a acts ih =>
    simp only [Spec.Sdt.run, Spec.Sdt.plainRun, List.foldl_cons] at ih ⊢
    apply ih
    rcases agree_spec_step h a with ⟨h1, h2⟩ | ⟨v', p', h1, h2, h3⟩
    · rw [h1, h2]; exact h
    · rw [h1, h2]; exact h3

end Sdt
end Acpi
