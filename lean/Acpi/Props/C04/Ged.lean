/-
  C04, the recorded finding made precise: what *does* hold of `hest::GenericErrorData`.
  The crate's section type is a `u16` where ACPI 6.5 Table 18.12 has a 16-byte GUID
  (`C04.ged_counterexample`); everything after the section type is the reference encoding.
-/
import Acpi.Lemmas.Builder
namespace Acpi.C04
open Spec

theorem flatten_eq_append_getD3 (l : List Bytes) :
    l.flatten = l.getD 0 [] ++ (l.getD 1 [] ++ (l.getD 2 [] ++ (l.drop 3).flatten)) := by
  match l with
  | [] | [_] | [_, _] | _ :: _ :: _ :: _ => simp

/-- **C04 for the Generic Error Data Entry, partial** (`_partial`: the section-type field is
    excluded, see `ged_counterexample` and known_findings.json): for all field values within their
    Rust types and any payloads added with `add_data`, the serialised entry is the two low bytes of
    the section type followed by exactly the reference encoding from offset 16 on (severity,
    revision, validation bits, flags, data length, FRU id, FRU text, timestamp, payload).  `hwf`
    fixes the sizes of FRU id, FRU text and timestamp (16, 20, 8), which the offsets of the rows
    assume; the equation of the bytes itself does not depend on it. -/
theorem ged_partial (c : EArgs) (a : EArgs) (hwf : entryWf .ged c [] = true)
    (h : buildEntry .ged c [] = .ok a) :
    ∃ total rs, Spec.rows .ged c [] = some (total, rs) ∧
      entryBytes .ged a = leN 2 (c.num 0) ++ (render rs).drop 16 := by
  obtain ⟨rfl, -, -⟩ := Builder.build_noCalls_init (fun _ _ => rfl) (fun _ => rfl) h
  refine ⟨_, _, rfl, ?_⟩
  have hb : ∀ i, a.blob i = a.b.toList.getD i [] := by
    intro i; simp [EArgs.blob, Array.getD_eq_getD_getElem?, List.getD_eq_getElem?_getD]
  have hd : ∀ d : Bytes, (if d.isEmpty then [] else [Row.raw 72 d]).flatMap Row.bytes = d := by
    intro d; cases d <;> simp [Row.bytes]
  -- both sides are the same byte strings in the same order, once the 16 bytes of the GUID are dropped
  rw [entryBytes, fields, encFields_append, encFields_map_raw]
  simp only [encFields, render, List.flatMap_append, List.flatMap_cons, List.flatMap_nil, hd, hb, Fld.bytes,
    Row.bytes, List.append_assoc, List.append_nil]
  rw [List.drop_left' (length_leN 16 _), flatten_eq_append_getD3 a.b.toList]

/-- non-vacuity: an entry with two `add_data` payloads meets the hypotheses -/
example : entryWf .ged { n := #[7, 1, 0x300, 1, 2, 12], b := #[zeros 16, zeros 20, zeros 8, [1, 2, 3], [4]] } [] = true ∧
    ∃ a, buildEntry .ged { n := #[7, 1, 0x300, 1, 2, 12], b := #[zeros 16, zeros 20, zeros 8, [1, 2, 3], [4]] } [] = .ok a :=
  ⟨by decide, _, rfl⟩

end Acpi.C04
