/-
  C04/C11 for the FADT: every builder call acts on the 99 state slots as `fadtWrite` says, so
  the final state is `slotValue fadtWrite` slot by slot; the image is the slots in order and
  `fadtSlotPos` tiles `[36, 276)` in that order.
-/
import Acpi.Lemmas.FixedRows
import Acpi.Lemmas.Header
import Acpi.Lemmas.LayoutMadt
namespace Acpi.C04
open Spec Acpi.C04.Madt

theorem flagValue_eq : ∀ k, k < 25 → Fadt.flagValue k = fadtFlagBits k := by decide

macro "fadt_slot" hn:ident hs:ident i:ident : tactic =>
  `(tactic| (refine ⟨by simp [$hs:ident], ?_⟩; intro $i:ident; unfold fadtWrite;
             simp only [$hn:ident, num_setNum, size_setNum, num_orNum, size_orNum, $hs:ident]))

theorem fadt_apply (a a' : EArgs) (o : Opt) (h : Fadt.applyOp a o = some a') :
    Writes 99 (fadtWrite · o) a a' := by
  unfold Fadt.applyOp at h
  dsimp only at h
  split at h
  case h_1 hn =>  -- "dsdt32"
    obtain rfl := Option.some.inj h
    exact ⟨[(1, o.arg 0, false), (47, 0, false)], rfl, by simp, by simp,
      fun i => by simp only [fadtWrite, hn]; rfl⟩
  case h_2 hn =>  -- "dsdt64"
    obtain rfl := Option.some.inj h
    exact ⟨[(1, 0, false), (47, o.arg 0, false)], rfl, by simp, by simp,
      fun i => by simp only [fadtWrite, hn]; rfl⟩
  case h_3 hn =>  -- "fc32"
    obtain rfl := Option.some.inj h
    exact ⟨[(0, o.arg 0, false), (46, 0, false)], rfl, by simp, by simp,
      fun i => by simp only [fadtWrite, hn]; rfl⟩
  case h_4 hn =>  -- "fc64"
    obtain rfl := Option.some.inj h
    exact ⟨[(0, 0, false), (46, o.arg 0, false)], rfl, by simp, by simp,
      fun i => by simp only [fadtWrite, hn]; rfl⟩
  case h_5 hn =>  -- "acpien"
    obtain rfl := Option.some.inj h
    exact ⟨[(6, 1, false), (7, 0, false)], rfl, by simp, by simp,
      fun i => by simp only [fadtWrite, hn]; rfl⟩
  case h_6 hn =>  -- "acpidis"
    obtain rfl := Option.some.inj h
    exact ⟨[(6, 0, false), (7, 1, false)], rfl, by simp, by simp,
      fun i => by simp only [fadtWrite, hn]; rfl⟩
  case h_7 hn =>  -- "flag"
    split at h
    · rename_i hk
      obtain rfl := Option.some.inj h
      exact ⟨[(37, fadtFlagBits (o.arg 0), true)], by rw [← flagValue_eq _ hk]; rfl, by simp, by simp,
        fun i => by simp only [fadtWrite, hn]; rfl⟩
    · cases h
  case h_8 hn =>  -- "gpe"
    obtain rfl := Option.some.inj h
    exact ⟨[(16, o.arg 0, false), (17, o.arg 1, false), (22, o.arg 2, false), (23, o.arg 3, false),
      (24, o.arg 4, false)], rfl, by simp, by simp, fun i => by simp only [fadtWrite, hn]; rfl⟩
  case h_9 hn =>  -- "profile"
    obtain rfl := Option.some.inj h
    exact ⟨[(3, o.arg 0, false)], rfl, by simp, by simp,
      fun i => by simp only [fadtWrite, hn]; rfl⟩
  case h_10 hn =>  -- "set"
    split at h
    · rename_i hk
      obtain rfl := Option.some.inj h
      exact ⟨[(o.arg 0, o.arg 1, false)], rfl, by simpa [Fadt.slots] using hk.1, by simp,
        fun i => by simp only [fadtWrite, hn]; rfl⟩
    · cases h
  case h_11 hn =>  -- "gas"
    split at h
    · rename_i hk
      generalize hb : (if o.arg 0 = 0 then 38 else 48 + 5 * (o.arg 0 - 1)) = base at h
      have hlt : base + 5 ≤ 99 := by subst hb; split <;> omega
      obtain rfl := Option.some.inj h
      exact .range (f := fun j => o.arg (1 + j)) hlt rfl fun i => by simp only [fadtWrite, hn, hb]
    · cases h
  case h_12 hn =>  -- "stalecks"
    obtain rfl := Option.some.inj h
    exact ⟨[], rfl, by simp, by simp,
      fun i => by simp only [fadtWrite, hn]; rfl⟩
  case h_13 =>  -- anything else
    cases h

theorem fadt_slots (ops : List Opt) (s s' : FixedState) (ht : s.t = .fadt) (hs : s.a.n.size = 99)
    (h : runFixedFrom s ops = some s') (i : Nat) : s'.a.num i = slotValue fadtWrite i (s.a.num i) ops :=
  slots_run .fadt 99 Fadt.applyOp fadtWrite step_fadt_eq fadt_apply ops s s' ht hs h i

theorem pairRow (p : Nat × Nat) (v : Nat) :
    (match p with | (off, w) => Row.num off w v) = Row.num p.1 p.2 v := by
  cases p; rfl

theorem fadt_tiles (V : Nat → Nat) :
    tilesFrom 36 276 ((List.range 99).map fun i =>
      let (off, w) := fadtSlotPos.getD i (0, 0)
      Row.num off w (V i)) = true := by
  rw [tilesFrom_eq_tilesP, List.map_map]
  have : ((fun r : Row => (r.off, r.width)) ∘ fun i =>
      match fadtSlotPos.getD i (0, 0) with | (off, w) => Row.num off w (V i)) =
      fun i => fadtSlotPos.getD i (0, 0) := by
    funext i
    simp only [Function.comp, Row.off, Row.width]
  -- read index by index the table would be walked 99 times; as a list it is evaluated once
  rw [this, range_map_getD fadtSlotPos (0, 0) (by decide +kernel)]
  decide +kernel

theorem fadt_widths (i : Nat) : Fadt.widths.getD i 0 = (fadtSlotPos.getD i (0, 0)).2 := by
  rw [show Fadt.widths = fadtSlotPos.map (·.2) by decide +kernel, List.getD_eq_getElem?_getD,
    List.getD_eq_getElem?_getD, List.getElem?_map]
  cases fadtSlotPos[i]? <;> rfl

theorem fadt_render (a : EArgs) (V : Nat → Nat) (hV : ∀ i, i < 99 → a.num i = V i) :
    encFields (Fadt.body a) = render ((List.range 99).map fun i =>
      let (off, w) := fadtSlotPos.getD i (0, 0)
      Row.num off w (V i)) := by
  unfold encFields render Fadt.body Fadt.slots
  rw [List.flatMap_def, List.flatMap_def, List.map_map, List.map_map]
  congr 1
  apply List.map_congr_left
  intro i hi
  simp only [Function.comp, Row.bytes, Fld.bytes, fadt_widths i, hV i (List.mem_range.mp hi)]

theorem fadt_init (i : Nat) : Fadt.initState.num i = if i = 45 then 5 else 0 :=
  (num_writes_zero (ws := [(45, 5, false)]) (N := 99) rfl (by simp) (by simp) i).trans (upd_ite _ 5 0)

theorem conforms_fadt (o : Oem) (c : EArgs) (ops : List Opt) (s : FixedState) (e : Nat)
    (h1 : o.id.length = 6) (h2 : o.table.length = 8) (hrun : runFixed .fadt o c ops = some s) :
    conforms (fixedRows .fadt o c ops (s.image.getD 8 0).toNat (s.image.getD 9 0).toNat e).1
      (fixedRows .fadt o c ops (s.image.getD 8 0).toNat (s.image.getD 9 0).toNat e).2 s.image = none := by
  obtain ⟨ht, ho⟩ := runFixed_t_oem hrun
  obtain ⟨s0, h0, hr⟩ := runFixed_some hrun
  have hs0 : s0 = { t := .fadt, oem := o, a := Fadt.initState } := by
    unfold FixedState.new at h0; cases h0; rfl
  subst hs0
  have hslots := fadt_slots ops _ s rfl (by simp [Fadt.initState, Fadt.slots]) hr
  rw [image_fadt s ht, ho]
  unfold fixedRows fadtRows
  dsimp only
  refine conforms_hdrRows_observed _ 276 _ _ _ _ _ rfl h1 h2 (fadt_tiles _) (fadt_render _ _ ?_)
  intro i _
  rw [hslots i, fadt_init]

end Acpi.C04
