/-
  C03 — table bodies are exactly tiled by self-describing entries; counts agree: the walk law, the
  engine theorem for an arbitrary configuration and shape, and that the twelve tables' configurations
  match their specification shapes.
-/
import Acpi.Tables.Whole
import Acpi.Spec.Walk
import Acpi.Lemmas.Tbl
import Acpi.Lemmas.Walk
import Acpi.Props.C02
namespace Acpi.C03
open Spec

/-- an entry is self-describing for walk style `k`: it announces type `ty` and its own
    length, and is at least as long as the header that carries them -/
def SelfDescribing (k : WalkKind) (ty : Nat) (raw : Bytes) : Prop :=
  entryHdr k raw = some (ty, raw.length) ∧ hdrSize k ≤ raw.length ∧ 0 < raw.length

instance (k : WalkKind) (ty : Nat) (raw : Bytes) : Decidable (SelfDescribing k ty raw) := by
  unfold SelfDescribing; infer_instance

/-- **C03 (walk)**: a concatenation of self-describing entries is walked back into exactly
    those entries, in order, with their type codes, ending exactly at the end. -/
theorem walk_flatten (k : WalkKind) (es : List (Nat × Bytes))
    (h : ∀ e ∈ es, SelfDescribing k e.1 e.2) (fuel : Nat)
    (hf : (es.map (·.2)).flatten.length ≤ fuel) :
    walk k fuel (es.map (·.2)).flatten = some es := by
  induction es generalizing fuel with
  | nil => cases fuel <;> rfl
  | cons e es ih =>
    obtain ⟨ty, raw⟩ := e
    obtain ⟨e1, e2, e3⟩ := h (ty, raw) List.mem_cons_self
    simp only at e1 e2 e3
    simp only [List.map_cons, List.flatten_cons, List.length_append] at hf ⊢
    cases fuel with
    | zero => omega
    | succ fuel =>
      rw [walk_step k fuel _ ty raw.length (by rw [entryHdr_append k _ _ e2]; exact e1) e2 e3
        (by simp only [List.length_append]; omega),
        List.drop_left' rfl, List.take_left' rfl,
        ih (fun e he => h e (List.mem_cons_of_mem _ he)) fuel (by omega)]
      rfl

/-- **C03 (engine)**: for a table whose first-entry offset is the engine's, whose entries are
    self-describing, whose count field (if any) is the engine's and whose array-offset field (if
    any) is the constant stored at the start of the engine's `post` bytes, the specification's
    walk of the emitted image finds exactly the entries added, the count agrees (modulo the
    width of its field) and the array-offset field reads back the specified value. -/
theorem table_entries (c : TblCfg) (o : Oem) (hw : C02.CfgWf c o) (sh : TableShape)
    (hfirst : sh.first = Tbl.firstOffset c)
    (hcount : sh.count = if c.cw = 0 then none else some (36 + c.pre.length, c.cw))
    (harr : ∀ off w v, sh.arrayOff = some (off, w, v) →
      off = 36 + c.pre.length + c.cw ∧ c.post.take w = leN w v ∧ w ≤ c.post.length ∧ v < 256 ^ w)
    (es : List (Bytes × Nat)) (tys : List Nat) (hty : tys.length = es.length)
    (hsd : ∀ i (hi : i < es.length), SelfDescribing sh.kind (tys[i]'(hty ▸ hi)) es[i].1)
    (hs : List Nat) (t : Tbl) (h : runAdds (Tbl.new c o) es = some (hs, t)) :
    tableEntries sh t.image = .ok (tys.zip (es.map (·.1))) := by
  obtain ⟨hsig, hid, htb⟩ := hw
  obtain ⟨himg, hhead⟩ := image_of_run hsig hid htb h
  have r := Ran.of_run h
  have hc : t.cfg = c := r.cfg
  have ho : t.oem = o := r.oem
  have hcnt : t.count = es.length := by simpa using r.count
  subst hc ho
  rw [← hfirst] at hhead
  have hlen : tys.length = (es.map (·.1)).length := by rw [List.length_map, hty]
  have hzl : (tys.zip (es.map (·.1))).length = es.length := by
    rw [List.length_zip, hlen, Nat.min_self, List.length_map]
  have hmap : (tys.zip (es.map (·.1))).map (·.2) = es.map (·.1) := List.map_snd_zip (Nat.le_of_eq hlen.symm)
  have hall : ∀ e ∈ tys.zip (es.map (·.1)), SelfDescribing sh.kind e.1 e.2 := by
    intro e he
    obtain ⟨i, hi, rfl⟩ := List.mem_iff_getElem.mp he
    simpa only [List.getElem_zip, List.getElem_map] using hsd i (hzl ▸ hi)
  apply tableEntries_ok
  · rw [himg, List.length_append, hhead]; omega
  · have hwalk := walk_flatten sh.kind _ hall t.image.length (by
      rw [hmap, himg, List.length_append]; omega)
    rw [hmap] at hwalk
    rwa [show t.image.drop sh.first = _ by rw [himg, List.drop_left' hhead]]
  · intro off w hc
    rw [hcount] at hc
    split at hc <;> cases hc
    rw [hzl, ← hcnt]
    exact readAt_count t hsig hid htb
  · intro off w v ha
    obtain ⟨rfl, hp, -, hv⟩ := harr off w v ha
    rw [readAt_post t hsig hid htb w v hp, Nat.mod_eq_of_lt hv]

/-- the side conditions of `table_entries` relating a specification shape to an engine
    configuration -/
def ShapeMatches (sh : TableShape) (c : TblCfg) : Prop :=
  c.sig.length = 4 ∧
  sh.first = Tbl.firstOffset c ∧
  sh.count = (if c.cw = 0 then none else some (36 + c.pre.length, c.cw)) ∧
  ∀ off w v, sh.arrayOff = some (off, w, v) →
    off = 36 + c.pre.length + c.cw ∧ c.post.take w = leN w v ∧ w ≤ c.post.length ∧ v < 256 ^ w

/-- every table's engine configuration matches its specification shape -/
theorem shape (T : TableId) : ∃ sh, shapeOf T.name = some sh ∧ ShapeMatches sh T.cfg := by
  cases T <;> refine ⟨_, rfl, rfl, rfl, rfl, fun _ _ _ h => ?_⟩ <;> cases h <;>
    exact ⟨rfl, rfl, Nat.le_of_ble_eq_true rfl, by decide⟩

theorem table_entries_of_shape (c : TblCfg) (o : Oem) (ho : o.id.length = 6 ∧ o.table.length = 8)
    (sh : TableShape) (hm : ShapeMatches sh c)
    (es : List (Bytes × Nat)) (tys : List Nat) (hty : tys.length = es.length)
    (hsd : ∀ i (hi : i < es.length), SelfDescribing sh.kind (tys[i]'(hty ▸ hi)) es[i].1)
    (hs : List Nat) (t : Tbl) (h : runAdds (Tbl.new c o) es = some (hs, t)) :
    tableEntries sh t.image = .ok (tys.zip (es.map (·.1))) :=
  table_entries c o ⟨hm.1, ho.1, ho.2⟩ sh hm.2.1 hm.2.2.1 hm.2.2.2 es tys hty hsd hs t h

/-- non-vacuity: self-describing entries exist for a header style, and the hypotheses of
    `table_entries_of_shape` are jointly satisfiable on a VIOT-shaped history -/
theorem sd_example : SelfDescribing .t8l16 3 [3, 0, 6, 0, 9, 9] ∧ SelfDescribing .t8l16 4 [4, 0, 4, 0] := by
  decide

example : ∃ sh hs t, shapeOf "viot" = some sh ∧
    runAdds (Tbl.new cfgVIOT ⟨[1,2,3,4,5,6], [1,2,3,4,5,6,7,8], 7⟩)
      [([3, 0, 6, 0, 9, 9], 6), ([4, 0, 4, 0], 4)] = some (hs, t) ∧
    tableEntries sh t.image = .ok [(3, [3, 0, 6, 0, 9, 9]), (4, [4, 0, 4, 0])] := by
  obtain ⟨sh, hsh, hm⟩ := shape .viot
  refine ⟨sh, _, _, hsh, rfl, ?_⟩
  cases hsh
  exact table_entries_of_shape cfgVIOT _ ⟨rfl, rfl⟩ _ hm
    [([3, 0, 6, 0, 9, 9], 6), ([4, 0, 4, 0], 4)] [3, 4] rfl
    (by intro i hi
        match i, hi with
        | 0, _ => exact sd_example.1
        | 1, _ => exact sd_example.2) _ _ rfl

end Acpi.C03
