/-
  Runs of the fixed tables.  A run is `new` followed by a chain of steps (`runFixed_some`,
  `runFixedFrom_cons_some`), so what every successful step preserves holds after the program
  (`runFixedFrom_inv`).  Each table has its step read backwards: an equation for FADT and TCPA
  server, whose steps act on the slots only; what a successful call did for SLIT and TPM2; no
  successful call at all for the tables without builder calls, whose only program is `[]`.  Then
  what no step changes (`runFixed_t_oem`: table kind and OEM fields), the image of the four tables
  with a state (`image_fadt`, `image_tcpas`, `image_tpm2`, `image_slit`), and the two TPM2 programs
  there are (`tpm2_run`).
-/
import Acpi.Tables.Fixed
namespace Acpi

theorem runFixed_some {t : FixedT} {o : Oem} {c : EArgs} {ops : List Opt} {s : FixedState}
    (h : runFixed t o c ops = some s) :
    ∃ s0, FixedState.new t o c = some s0 ∧ runFixedFrom s0 ops = some s :=
  Option.bind_eq_some_iff.mp h

theorem runFixedFrom_nil (s : FixedState) : runFixedFrom s [] = some s := rfl

theorem runFixedFrom_cons_some {s s' : FixedState} {o : Opt} {os : List Opt}
    (h : runFixedFrom s (o :: os) = some s') :
    ∃ s1, s.step o = some s1 ∧ runFixedFrom s1 os = some s' :=
  Option.bind_eq_some_iff.mp h

theorem runFixedFrom_inv (P : FixedState → Prop)
    (hstep : ∀ s o s', P s → s.step o = some s' → P s') :
    ∀ (ops : List Opt) (s s' : FixedState), P s → runFixedFrom s ops = some s' → P s' := by
  intro ops
  induction ops with
  | nil => intro s s' hp h; cases h; exact hp
  | cons o os ih =>
    intro s s' hp h
    obtain ⟨s1, h1, h2⟩ := runFixedFrom_cons_some h
    exact ih s1 s' (hstep s o s1 hp h1) h2

/-- a state on which every operation panics: a successful program is empty -/
theorem runFixedFrom_of_step_none {s s' : FixedState} {ops : List Opt} (hno : ∀ o, s.step o = none)
    (h : runFixedFrom s ops = some s') : ops = [] ∧ s' = s := by
  cases ops with
  | nil => cases h; exact ⟨rfl, rfl⟩
  | cons o os =>
    obtain ⟨s1, h1, _⟩ := runFixedFrom_cons_some h
    rw [hno] at h1; cases h1

/-- tables without builder calls -/
def FixedT.plain (t : FixedT) : Prop :=
  t = .bert ∨ t = .spcr ∨ t = .tcpac ∨ t = .rsdp ∨ t = .facs

theorem step_plain (s : FixedState) (h : s.t.plain) (o : Opt) : s.step o = none := by
  unfold FixedState.step
  rcases h with h | h | h | h | h <;> rw [h]

theorem new_plain {t : FixedT} (h : t.plain) (o : Oem) (c : EArgs) :
    FixedState.new t o c = some { t, oem := o, a := c } := by
  rcases h with h | h | h | h | h <;> subst h <;> rfl

/-- a table without builder calls: the only successful program is the empty one and the state
    is the constructor's -/
theorem runFixed_plain {t : FixedT} (ht : t.plain) {o : Oem} {c : EArgs} {ops : List Opt}
    {s : FixedState} (h : runFixed t o c ops = some s) :
    ops = [] ∧ s = { t, oem := o, a := c } := by
  obtain ⟨s0, h0, h1⟩ := runFixed_some h
  rw [new_plain ht] at h0
  cases h0
  exact runFixedFrom_of_step_none (step_plain _ ht) h1

/-- a successful SLIT `set_distance a b v` (`o.arg 0 1 2`): both flat indices `a + n·b`, `b + n·a`
    are in range, both cells take `v`, and the accumulator trades the old bytes for the new -/
structure SlitStep (s : FixedState) (o : Opt) (s' : FixedState) : Prop where
  name : o.name = "dist"
  lt₁ : o.arg 0 + s.a.num 0 * o.arg 1 < s.cells.length
  lt₂ : o.arg 1 + s.a.num 0 * o.arg 0 < s.cells.length
  t : s'.t = .slit
  a : s'.a = s.a
  oem : s'.oem = s.oem
  cells : s'.cells = (s.cells.set (o.arg 0 + s.a.num 0 * o.arg 1) (o.arg 2)).set (o.arg 1 + s.a.num 0 * o.arg 0) (o.arg 2)
  hdr : s'.hdrCks = s'.cks.cksum
  cks : s'.cks = (if o.arg 0 = o.arg 1 then
        (s.cks.sub (UInt8.ofNat (s.cells.getD (o.arg 0 + s.a.num 0 * o.arg 1) 0))).add (UInt8.ofNat (o.arg 2))
      else (s.cks.delete [UInt8.ofNat (s.cells.getD (o.arg 0 + s.a.num 0 * o.arg 1) 0),
              UInt8.ofNat (s.cells.getD (o.arg 1 + s.a.num 0 * o.arg 0) 0)]).append
              [UInt8.ofNat (o.arg 2), UInt8.ofNat (o.arg 2)])

theorem step_slit_some {s s' : FixedState} {o : Opt} (ht : s.t = .slit) (h : s.step o = some s') :
    SlitStep s o s' := by
  unfold FixedState.step at h
  rw [ht] at h
  dsimp only at h
  split at h
  · rename_i hn
    split at h
    · cases h
    · rename_i hr
      simp only [not_or, Nat.not_le] at hr
      split at h
      · rename_i hab
        cases h
        refine ⟨hn, hr.1, hr.2, rfl, rfl, rfl, ?_, rfl, ?_⟩
        · simp only [hab, List.set_set]
        · simp only [hab, if_true]
      · rename_i hab
        cases h
        refine ⟨hn, hr.1, hr.2, rfl, rfl, rfl, rfl, rfl, ?_⟩
        simp only [hab, if_false]
  · cases h

/-- a successful TPM2 `set_log_area`: there was no log area yet (`assert!(old_len == 52)`) -/
structure Tpm2Step (s : FixedState) (o : Opt) (s' : FixedState) : Prop where
  name : o.name = "logarea"
  fresh : s.a.num 3 = 0
  t : s'.t = .tpm2
  oem : s'.oem = s.oem
  a : s'.a = ((s.a.setNum 3 1).setNum 4 (o.arg 0)).setNum 5 (o.arg 1)
  hdr : s'.hdrCks = s'.cks.cksum
  cks : s'.cks = (((s.cks.delete (u32le 52)).append (u32le 76)).append (leN 4 (o.arg 0))).append (leN 8 (o.arg 1))

theorem step_tpm2_some {s s' : FixedState} {o : Opt} (ht : s.t = .tpm2) (h : s.step o = some s') :
    Tpm2Step s o s' := by
  unfold FixedState.step at h
  rw [ht] at h
  dsimp only at h
  split at h
  · rename_i hn
    split at h
    · cases h
    · rename_i hr
      cases h
      exact ⟨hn, by simpa using hr, rfl, rfl, rfl, rfl, rfl⟩
  · cases h

theorem step_fadt_eq (s : FixedState) (o : Opt) (ht : s.t = .fadt) :
    s.step o = (Fadt.applyOp s.a o).map fun a => { s with a } := by
  unfold FixedState.step; rw [ht]

theorem step_tcpas_eq (s : FixedState) (o : Opt) (ht : s.t = .tcpas) :
    s.step o = (Tcpas.applyOp s.a o).map fun a => { s with a } := by
  unfold FixedState.step; rw [ht]

theorem step_t_oem {s s' : FixedState} {o : Opt} (h : s.step o = some s') :
    s'.t = s.t ∧ s'.oem = s.oem := by
  cases ht : s.t with
  | fadt =>
    rw [step_fadt_eq s o ht, Option.map_eq_some_iff] at h
    obtain ⟨a, _, rfl⟩ := h; exact ⟨ht, rfl⟩
  | tcpas =>
    rw [step_tcpas_eq s o ht, Option.map_eq_some_iff] at h
    obtain ⟨a, _, rfl⟩ := h; exact ⟨ht, rfl⟩
  | tpm2 => exact ⟨(step_tpm2_some ht h).t, (step_tpm2_some ht h).oem⟩
  | slit => exact ⟨(step_slit_some ht h).t, (step_slit_some ht h).oem⟩
  | _ => rw [step_plain s (by simp [FixedT.plain, ht])] at h; cases h

theorem new_t_oem {t : FixedT} {o : Oem} {c : EArgs} {s : FixedState} (h : FixedState.new t o c = some s) :
    s.t = t ∧ s.oem = o := by
  unfold FixedState.new at h
  cases t <;> dsimp only at h
  case slit =>
    split at h
    · cases h
    · cases h; exact ⟨rfl, rfl⟩
  all_goals (cases h; exact ⟨rfl, rfl⟩)

theorem runFixed_t_oem {t : FixedT} {o : Oem} {c : EArgs} {ops : List Opt} {s : FixedState}
    (h : runFixed t o c ops = some s) : s.t = t ∧ s.oem = o := by
  obtain ⟨s0, h0, h1⟩ := runFixed_some h
  exact runFixedFrom_inv (fun x => x.t = t ∧ x.oem = o) (fun x op x' hx hs =>
    ⟨(step_t_oem hs).1.trans hx.1, (step_t_oem hs).2.trans hx.2⟩) ops s0 s (new_t_oem h0) h1

theorem image_fadt (s : FixedState) (ht : s.t = .fadt) :
    s.image = fixedImage [0x46, 0x41, 0x43, 0x50] 276 6 s.oem (encFields (Fadt.body s.a)) := by
  unfold FixedState.image; rw [ht]

theorem image_tcpas (s : FixedState) (ht : s.t = .tcpas) :
    s.image = fixedImage [0x54, 0x43, 0x50, 0x41] 100 2 s.oem (encFields (Tcpas.body s.a)) := by
  unfold FixedState.image; rw [ht]

theorem image_tpm2 (s : FixedState) (ht : s.t = .tpm2) :
    s.image = hdrBytes [0x54, 0x50, 0x4D, 0x32] (UInt32.ofNat (tpm2Len s.a)) 1 s.hdrCks s.oem ++
      tpm2Rest s.a := by
  unfold FixedState.image; rw [ht]

theorem image_slit (s : FixedState) (ht : s.t = .slit) :
    s.image = slitHead s.oem (s.a.num 0) s.hdrCks ++ s.cells.map UInt8.ofNat := by
  unfold FixedState.image; rw [ht]

/-- a successful TPM2 program is empty or one `set_log_area` -/
theorem tpm2_run {o : Oem} {c : EArgs} {ops : List Opt} {s : FixedState}
    (hrun : runFixed .tpm2 o c ops = some s) :
    s.t = .tpm2 ∧ s.oem = o ∧
    ((ops = [] ∧ s.a = { n := #[c.num 0, c.num 1, c.num 2, 0, 0, 0] }) ∨
     (∃ op, ops = [op] ∧ op.name = "logarea" ∧
        s.a = { n := #[c.num 0, c.num 1, c.num 2, 1, op.arg 0, op.arg 1] })) := by
  obtain ⟨ht, ho⟩ := runFixed_t_oem hrun
  refine ⟨ht, ho, ?_⟩
  obtain ⟨s0, h0, h1⟩ := runFixed_some hrun
  cases h0
  cases ops with
  | nil => cases h1; exact Or.inl ⟨rfl, rfl⟩
  | cons op os =>
    right
    obtain ⟨s1, hs1, h2⟩ := runFixedFrom_cons_some h1
    have S1 := step_tpm2_some rfl hs1
    cases os with
    | nil =>
      cases h2
      exact ⟨op, rfl, S1.name, S1.a⟩
    | cons op2 os2 =>
      -- a second `set_log_area` finds slot 3 set
      obtain ⟨s2, hs2, _⟩ := runFixedFrom_cons_some h2
      have h3 := (step_tpm2_some S1.t hs2).fresh
      rw [S1.a] at h3
      cases h3

end Acpi
