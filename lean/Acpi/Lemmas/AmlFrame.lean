/-
  Helper lemmas for Props/C07/Objects.lean: every length-prefixed constructor of the model's
  AML encoder emits `opcode ++ pkgLen body.length true ++ body` (`Framed`) — a row with a body
  (`framed_of_row`), or one of the three buffer constructors — and a framed object passes the
  specification-side oracle `Spec.c07Object`.
-/
import Acpi.Spec.AmlFrame
import Acpi.Lemmas.AmlTable
namespace Acpi
open Spec

/-- `bs` is `w` opcode bytes, then the self-inclusive PkgLength of a body, then that body -/
def Framed (w : Nat) (bs : Bytes) : Prop :=
  ∃ body, bs = bs.take w ++ pkgLen body.length true ++ body ∧ pkgLenTotal body.length true < 2 ^ 28

theorem framed_mk {w : Nat} {oc body bs : Bytes} (hl : oc.length = w)
    (hp : ¬ pkgLenPanics body.length true = true)
    (h : bs = oc ++ (pkgLen body.length true ++ body)) : Framed w bs := by
  refine ⟨body, ?_, pkgLenTotal_lt_of_not_panics hp⟩
  subst h
  rw [List.take_left' hl, List.append_assoc]

theorem framed_of_pkgObj {w : Nat} {oc body bs : Bytes} (hl : oc.length = w)
    (h : pkgObj oc body = some bs) : Framed w bs :=
  framed_mk hl (pkgObj_some h).1 (pkgObj_some h).2

open Lemmas.AmlParse in
theorem framed_of_row {op : Op} {ints : List Nat} {blobs : List Bytes} {kids : AmlList} {bs : Bytes}
    {r : OpRow} {b : Spec.Aml.Body} (h : (Aml.node op ints blobs kids).enc = some bs)
    (hr : opRow op ints kids.length = some r) (hb : r.body = some b) : Framed r.opc.length bs := by
  rw [opRow_enc hr] at h
  obtain ⟨_, pre, ks, _, _, this⟩ := OpRow.enc_some h
  rw [hb] at this
  exact framed_mk rfl this.1 this.2

theorem c07Object_of_framed {op : Op} {w : Nat} {bs : Bytes}
    (hw : pkgLenOpcodeWidth op = some w) (hf : Framed w bs) : c07Object op bs = none := by
  obtain ⟨body, e, ht⟩ := hf
  have hd : bs.drop w = pkgLen body.length true ++ body := by
    have e2 : bs.take w ++ bs.drop w = bs.take w ++ (pkgLen body.length true ++ body) := by
      rw [List.take_append_drop, ← List.append_assoc]; exact e
    exact List.append_cancel_left e2
  have hdec := C07.decode_object body.length body [] rfl ht
  rw [List.append_nil] at hdec
  unfold c07Object
  rw [hw]
  simp only [hd, hdec]
  rw [if_neg (by simp)]
  -- this closes the goal; what is left is the condition: no shorter width fits (`C07.minimal`)
  rw [if_neg]
  intro hany
  rw [List.any_eq_true] at hany
  obtain ⟨w', hmem, hle⟩ := hany
  rw [List.mem_range, C07.length_pkgLen] at hmem
  have hle' := of_decide_eq_true hle
  rw [List.length_append, C07.length_pkgLen] at hle'
  have hmin := C07.minimal body.length (w' + 1) (by omega) (by omega)
  omega

end Acpi
