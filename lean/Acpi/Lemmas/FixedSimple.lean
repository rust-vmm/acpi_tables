/-
  C04 for the fixed tables without a slot state: BERT, SPCR, TCPA client, FACS and RSDP, whose only
  program is `[]` and whose image is a closed form of the constructor arguments, and TPM2, whose
  program is `[]` or one `set_log_area`.
-/
import Acpi.Lemmas.FixedImage
namespace Acpi.C04
open Spec

/-- a table without builder calls whose image is `fixedImage` of a body that its rows tile and
    render -/
theorem conforms_plain {t : FixedT} (ht : t.plain) {o : Oem} {c : EArgs} {ops : List Opt}
    {s : FixedState} (hrun : runFixed t o c ops = some s)
    {sig : Bytes} {len : Nat} {rev : UInt8} {body : Bytes} {rows : List Row}
    (himg : ({ t, oem := o, a := c } : FixedState).image = fixedImage sig len rev o body)
    (hrows : ∀ r k e, fixedRows t o c [] r k e = (len, hdrRows sig len r k o ++ rows))
    (hs : sig.length = 4) (h1 : o.id.length = 6) (h2 : o.table.length = 8)
    (htile : tilesFrom 36 len rows = true) (hb : body = render rows) (e : Nat) :
    conforms (fixedRows t o c ops (s.image.getD 8 0).toNat (s.image.getD 9 0).toNat e).1
      (fixedRows t o c ops (s.image.getD 8 0).toNat (s.image.getD 9 0).toNat e).2 s.image = none := by
  obtain ⟨rfl, rfl⟩ := runFixed_plain ht hrun
  rw [hrows, himg]
  exact conforms_hdrRows_observed sig len rev _ o body rows hs h1 h2 htile hb

theorem conforms_facs (o : Oem) (c : EArgs) (ops : List Opt) (s : FixedState) (r k e : Nat)
    (hrun : runFixed .facs o c ops = some s) :
    conforms (fixedRows .facs o c ops r k e).1 (fixedRows .facs o c ops r k e).2 s.image = none := by
  obtain ⟨rfl, rfl⟩ := runFixed_plain (by simp [FixedT.plain]) hrun
  unfold FixedState.image fixedRows
  dsimp only
  exact conforms_of_eq _ _ _ (by decide) (by decide)

theorem conforms_rsdp (o : Oem) (c : EArgs) (ops : List Opt) (s : FixedState) (r : Nat)
    (h1 : o.id.length = 6) (hrun : runFixed .rsdp o c ops = some s) :
    conforms (fixedRows .rsdp o c ops r (s.image.getD 8 0).toNat (s.image.getD 32 0).toNat).1
      (fixedRows .rsdp o c ops r (s.image.getD 8 0).toNat (s.image.getD 32 0).toNat).2 s.image = none := by
  obtain ⟨k, x, hi, _, _⟩ := rsdp_image hrun
  rw [hi]
  have e8 : (rsdpPre o k ++ rsdpRest c x).getD 8 0 = k := rfl
  have l20 := (length_rsdp o c k x h1).1
  have e32 : (rsdpPre o k ++ rsdpRest c x).getD 32 0 = x := by
    rw [List.getD_eq_getElem?_getD, List.getElem?_append_right (by omega), l20]
    rfl
  rw [e8, e32]
  apply conforms_of_eq
  · simp [fixedRows, tilesFrom, Row.off, Row.width, h1, res]
  · simp [layout, fixedRows, rsdpPre, rsdpRest, leN_one, u32le_eq_leN]

theorem conforms_tpm2 (o : Oem) (c : EArgs) (ops : List Opt) (s : FixedState) (e : Nat)
    (h1 : o.id.length = 6) (h2 : o.table.length = 8) (hrun : runFixed .tpm2 o c ops = some s) :
    conforms (fixedRows .tpm2 o c ops (s.image.getD 8 0).toNat (s.image.getD 9 0).toNat e).1
      (fixedRows .tpm2 o c ops (s.image.getD 8 0).toNat (s.image.getD 9 0).toNat e).2 s.image = none := by
  obtain ⟨ht, ho, hc⟩ := tpm2_run hrun
  rw [image_tpm2 s ht, ho]
  rcases hc with ⟨rfl, ha⟩ | ⟨op, rfl, hn, ha⟩
  · rw [ha]
    unfold fixedRows
    simp only [List.find?_nil, Option.isSome_none, Bool.false_eq_true, if_false, List.append_nil]
    exact conforms_hdrRows_observed _ 52 _ _ _ _ _ rfl h1 h2 (by simp [tilesFrom, Row.off, Row.width, res])
      (by simp [layout, tpm2Rest, EArgs.num])
  · rw [ha]
    unfold fixedRows
    simp only [List.find?_cons, hn, decide_true, Option.isSome_some, if_true, List.append_assoc]
    exact conforms_hdrRows_observed _ 76 _ _ _ _ _ rfl h1 h2 (by simp [tilesFrom, Row.off, Row.width, res])
      (by simp [layout, tpm2Rest, EArgs.num])

end Acpi.C04
