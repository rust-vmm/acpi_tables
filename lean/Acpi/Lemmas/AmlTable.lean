/-
  The table of rows — for each constructor of the crate that is an operator of the grammar its
  opcode, its refusal, its operands in the grammar's positions and the order of emission — and
  its agreement with `enc`, `wf`, `meaning` and `shape`; hence the C06 induction step of these
  constructors (`step_row`) and of the three negated comparisons.
-/
import Acpi.Lemmas.AmlRow
namespace Acpi.Lemmas.AmlParse
open Spec.Aml Slot

/-- the flags byte of a Method: argument count in the low three bits, the serialize bit above -/
theorem method_flag_bits : ∀ a < 8, ∀ b < 2,
    (UInt8.ofNat ((a &&& 7) ||| (b <<< 3))).toNat = a + 8 * b ∧
      (UInt8.ofNat ((a &&& 7) ||| (b <<< 3))).toNat &&& 7 = a := by
  decide

theorem method_flags (a s : Nat) (h : a ≤ 7) :
    (UInt8.ofNat ((a &&& 7) ||| ((if s ≠ 0 then 1 else 0) <<< 3))).toNat = a + (if s ≠ 0 then 8 else 0) := by
  split <;> exact (method_flag_bits a (by omega) _ (by decide)).1

theorem field_flags : ∀ a < 6, ∀ b < 2, ∀ c < 3,
    (UInt8.ofNat (a ||| (b <<< 4) ||| (c <<< 5))).toNat = a + 16 * b + 32 * c := by
  decide

/-- ACPI 6.5 §20.2.5 against the crate's argument order.  `ints` are the node's scalars, `len`
    the number of its children. -/
def opRow (op : Op) (ints : List Nat) (len : Nat) : Option OpRow :=
  let i (k : Nat) := ints.getD k 0
  let byte (v : Nat) : Scalar := ⟨false, v, v⟩
  let word (v : Nat) : Scalar := ⟨true, v, v⟩
  let methodFlags : Scalar :=
    ⟨false, (i 0 &&& 7) ||| ((if i 1 ≠ 0 then 1 else 0) <<< 3), i 0 + (if i 1 ≠ 0 then 8 else 0)⟩
  let fieldFlags : Scalar := ⟨false, i 0 ||| (i 1 <<< 4) ||| (i 2 <<< 5), i 0 + 16 * i 1 + 32 * i 2⟩
  let byOp (pos : List Slot) (order : List Nat) : Option OpRow := some (.op (opByte op) (.fixed pos order none))
  match op with
  | .add | .concat | .subtract | .multiply | .shl | .shr | .and_ | .nand | .or_ | .nor | .xor | .concatres
  | .mod | .index | .tostring => byOp [G, T, T] [1, 2, 0]       -- children [target, a, b]: `Op a b Target`
  | .createdw | .createqw => byOp [N, T, T] [1, 2, 0]           -- [name, a, b]: `Op a b NameString`
  | .tobuffer | .tointeger => byOp [G, T] [1, 0]
  | .eq | .lt | .gt => byOp [T, T] [0, 1]
  | .objtype | .sizeof => byOp [S] [0]
  | .ret | .deref => byOp [T] [0]
  | .ones => some (.op 0xFF (.fixed [] [] none))
  | .store => some (.op 0x70 (.fixed [S, T] [1, 0] none))       -- [name, value]: `Store value name`
  | .notify => some (.op 0x86 (.fixed [S, T] [0, 1] none))
  | .mid => some (.op 0x9E (.fixed [T, T, T, G] [0, 1, 2, 3] none))
  | .createfield => some (.ext 0x13 (.fixed [N, T, T, T] [1, 2, 3, 0] none))
  | .name => some { OpRow.op 0x08 (.fixed [T] [0] none) with path := .name }
  | .mutex => some { OpRow.ext 0x01 (.fixed [] [] none) with path := .name, scalars := [byte (i 0)] }
  | .acquire => some { OpRow.ext 0x23 (.fixed [] [] none) with path := .super, scalars := [word (i 0)] }
  | .release => some { OpRow.ext 0x27 (.fixed [] [] none) with path := .super }
  | .opregion => some { OpRow.ext 0x80 (.fixed [T, T] [0, 1] none) with path := .name, scalars := [byte (i 0)] }
  | .varpkg => some (.op 0x13 (.fixed [T] [0] (some .elems)))
  | .bufterm => some (.op 0x11 (.fixed [T] [0] (some .bytes)))
  | .pkg => some { OpRow.op 0x12 (.all false .elems) with refuses := 255 < len, dec := inferInstance, scalars := [byte len] }
  | .device => some { OpRow.ext 0x82 (.all false .terms) with path := .name }
  | .scope => some { OpRow.op 0x10 (.all false .terms) with path := .name }
  | .if_ => some (.op 0xA0 (.all true .terms))                  -- children: predicate :: body
  | .while_ => some (.op 0xA2 (.all true .terms))
  | .else_ => some (.op 0xA1 (.all false .terms))
  | .method =>
    some { OpRow.op 0x14 (.all false .terms) with
           refuses := 7 < i 0, dec := inferInstance, path := .name, scalars := [methodFlags] }
  | .field => some { OpRow.ext 0x81 (.all false .fields) with path := .name, scalars := [fieldFlags] }
  | .powerres => some { OpRow.ext 0x84 (.all false .terms) with path := .name, scalars := [byte (i 0), word (i 1)] }
  | _ => none

theorem Scalar.byte_ok {v : Nat} (h : v < 256) : ∀ s ∈ [(⟨false, v, v⟩ : Scalar)], s.parsed = s.mean :=
  List.forall_mem_singleton.2 (UInt8.toNat_ofNat_of_lt' h)

theorem row_agrees (env : Env) {op : Op} {ints : List Nat} {blobs : List Bytes} {kids : AmlList} {r : OpRow}
    (h : opRow op ints kids.length = some r) : Agrees env (.node op ints blobs kids) blobs kids r := by
  -- `.mk opc shape enc wf meaning`: `shape`, `enc` and `meaning` are closed by evaluation (`enc` by
  -- `Option.map_eq_bind` where that arm of `Aml.enc` is written with `map`, `OpRow.enc` with `bind`);
  -- `wf` is the one field with an argument
  cases op <;> cases h
  case createfield => exact .mk (.ext _ _ rfl) rfl rfl (.of_okFrom rfl rfl rfl rfl (by decide)) rfl
  case objtype | sizeof | ret | deref =>
    exact .mk (.plain _ _ (by decide) (by decide) rfl) rfl (Option.map_eq_bind ..)
      (.of_okFrom rfl rfl rfl rfl (by decide)) rfl
  case varpkg | bufterm =>
    exact .mk (.plain _ _ (by decide) (by decide) rfl) rfl rfl (.of_okFrom rfl rfl rfl rfl (by decide)) rfl
  case name =>
    refine .mk (.plain _ _ (by decide) (by decide) rfl) rfl rfl (fun h => ?_) rfl
    simp only [wf, Bool.and_eq_true] at h
    exact ⟨h.1, fun _ => h.2.1, List.forall_mem_nil _, List.forall_mem_singleton.2 ⟨by decide, h.2.2⟩⟩
  case mutex =>
    refine .mk (.ext _ _ rfl) rfl (Option.map_eq_bind ..) (fun h => ?_) rfl
    simp only [wf, Bool.and_eq_true, decide_eq_true_eq] at h
    exact ⟨h.1, fun _ => h.2.1, Scalar.byte_ok h.2.2, List.forall_mem_nil _⟩
  case acquire =>
    refine .mk (.ext _ _ rfl) rfl (Option.map_eq_bind ..) (fun h => ?_) rfl
    simp only [wf, Bool.and_eq_true, decide_eq_true_eq] at h
    exact ⟨h.1, fun _ => h.2.1, List.forall_mem_singleton.2 (fromLE_leN_of_lt (w := 2) h.2.2), List.forall_mem_nil _⟩
  case release =>
    refine .mk (.ext _ _ rfl) rfl (Option.map_eq_bind ..) (fun h => ?_) rfl
    simp only [wf, Bool.and_eq_true] at h
    exact ⟨h.1, fun _ => h.2, List.forall_mem_nil _, List.forall_mem_nil _⟩
  case opregion =>
    refine .mk (.ext _ _ rfl) rfl rfl (fun h => ?_) rfl
    simp only [wf, Bool.and_eq_true, decide_eq_true_eq] at h
    obtain ⟨hw, ⟨⟨hp, hi⟩, h0⟩, h1⟩ := h
    exact ⟨hw, fun _ => hp, Scalar.byte_ok hi,
      List.forall_mem_cons.2 ⟨⟨by decide, h0⟩, List.forall_mem_singleton.2 ⟨by decide, h1⟩⟩⟩
  case pkg =>
    refine .mk (.plain _ _ (by decide) (by decide) rfl) rfl rfl (fun h => ?_) rfl
    simp only [wf, Bool.and_eq_true, decide_eq_true_eq, AmlList.length_toList] at h
    obtain ⟨hw, ⟨hl, ht⟩, he⟩ := h
    exact ⟨hw, fun hn => absurd rfl hn, Scalar.byte_ok (by omega), Bool.and_eq_true_iff.2 ⟨ht, he⟩⟩
  case device =>
    refine .mk (.ext _ _ rfl) rfl rfl (fun h => ?_) rfl
    simp only [wf, Bool.and_eq_true] at h
    exact ⟨h.1, fun _ => h.2.1, List.forall_mem_nil _, h.2.2⟩
  case scope =>
    refine .mk (.plain _ _ (by decide) (by decide) rfl) rfl rfl (fun h => ?_) rfl
    simp only [wf, Bool.and_eq_true] at h
    exact ⟨h.1, fun _ => h.2.1, List.forall_mem_nil _, h.2.2⟩
  case if_ | while_ =>
    refine .mk (.plain _ _ (by decide) (by decide) rfl) rfl rfl (fun h => ?_) rfl
    simp only [wf, Bool.and_eq_true, decide_eq_true_eq] at h
    obtain ⟨hw, hl, ht⟩ := h
    refine ⟨hw, fun hn => absurd rfl hn, List.forall_mem_nil _, ?_⟩
    cases kids with
    | nil => cases hl
    | cons a rest => exact ⟨a, rest, rfl, all_cons ht⟩
  case else_ =>
    refine .mk (.plain _ _ (by decide) (by decide) rfl) rfl rfl (fun h => ?_) rfl
    simp only [wf, Bool.and_eq_true] at h
    exact ⟨h.1, fun hn => absurd rfl hn, List.forall_mem_nil _, h.2⟩
  case method =>
    refine .mk (.plain _ _ (by decide) (by decide) rfl) rfl rfl (fun h => ?_) rfl
    simp only [wf, Bool.and_eq_true, decide_eq_true_eq] at h
    obtain ⟨hw, ⟨hp, hi⟩, ht⟩ := h
    exact ⟨hw, fun _ => hp, List.forall_mem_singleton.2 (method_flags _ _ hi), ht⟩
  case field =>
    refine .mk (.ext _ _ rfl) rfl rfl (fun h => ?_) rfl
    simp only [wf, Bool.and_eq_true, decide_eq_true_eq] at h
    obtain ⟨hw, ⟨⟨⟨hp, h0⟩, h1⟩, h2⟩, hf⟩ := h
    exact ⟨hw, fun _ => hp, List.forall_mem_singleton.2 (field_flags _ h0 _ h1 _ h2), hf⟩
  case powerres =>
    refine .mk (.ext _ _ rfl) rfl rfl (fun h => ?_) rfl
    simp only [wf, Bool.and_eq_true, decide_eq_true_eq] at h
    obtain ⟨hw, ⟨⟨hp, h0⟩, h1⟩, ht⟩ := h
    exact ⟨hw, fun _ => hp,
      List.forall_mem_cons.2 ⟨UInt8.toNat_ofNat_of_lt' h0, List.forall_mem_singleton.2 (fromLE_leN_of_lt (w := 2) h1)⟩, ht⟩
  all_goals
    exact .mk (.plain _ _ (by decide) (by decide) rfl) rfl rfl (.of_okFrom rfl rfl rfl rfl (by decide)) rfl

/-- the encoder half of `row_agrees`, which does not depend on the environment -/
theorem opRow_enc {op : Op} {ints : List Nat} {blobs : List Bytes} {kids : AmlList} {r : OpRow}
    (h : opRow op ints kids.length = some r) : (Aml.node op ints blobs kids).enc = r.enc blobs kids :=
  (row_agrees [] h).enc

theorem step_row (env : Env) {op : Op}
    (h : ∀ ints len, (opRow op ints len).isSome = true) : RTStep env op := fun ints blobs kids ih => by
  obtain ⟨r, hr⟩ := Option.isSome_iff_exists.mp (h ints kids.length)
  exact (row_agrees env hr).rt ih

/-- `LNot (Op a b)`: a negated comparison is `0x92` in front of the comparison `inner` -/
theorem step_not (env : Env) {op inner : Op} (hi : RTStep env inner)
    (hE : ∀ ints blobs kids, (Aml.node op ints blobs kids).enc =
      ((Aml.node inner ints blobs kids).enc).map (0x92 :: ·))
    (hW : ∀ ints blobs kids, wf env (.node op ints blobs kids) = wf env (.node inner ints blobs kids))
    (hM : ∀ ints blobs kids, meaning (.node op ints blobs kids) =
      .node (.op 0x92) [] [] (.cons (meaning (.node inner ints blobs kids)) .nil))
    (hk : ∀ ints blobs kids, okTerm (.node inner ints blobs kids) = true) : RTStep env op := by
  intro ints blobs kids ih bs rest fuel hwf _ henc hf
  rw [hE, Option.map_eq_some_iff] at henc
  obtain ⟨e, he, rfl⟩ := henc
  rw [hM]
  have T := (hi ints blobs kids ih).tfact (hW _ _ _ ▸ hwf) (hk _ _ _) he
  exact TFact.plain (opc := [0x92]) (e := e) (.plain 0x92 _ (by decide) (by decide) rfl) (ss := [.T]) rfl
    (by decide) (by simpa using SlotsFact.T T .nil) fuel rest hf

theorem enc_not {op inner : Op} (ints : List Nat) (blobs : List Bytes) (kids : AmlList)
    (h : (Aml.node op ints blobs kids).enc = ((AmlList.encs kids).getD 0 none).bind fun l =>
      ((AmlList.encs kids).getD 1 none).bind fun r => some ([0x92, opByte op] ++ l ++ r))
    (h' : (Aml.node inner ints blobs kids).enc = ((AmlList.encs kids).getD 0 none).bind fun l =>
      ((AmlList.encs kids).getD 1 none).bind fun r => some ([opByte inner] ++ l ++ r))
    (hb : opByte op = opByte inner) :
    (Aml.node op ints blobs kids).enc = ((Aml.node inner ints blobs kids).enc).map (0x92 :: ·) := by
  rw [h, h', hb]
  cases (AmlList.encs kids).getD 0 none <;> cases (AmlList.encs kids).getD 1 none <;> rfl

theorem step_ne (env : Env) : RTStep env .ne :=
  step_not env (step_row env (op := .eq) fun _ _ => rfl) (fun _ _ _ => enc_not _ _ _ rfl rfl rfl) (fun _ _ _ => rfl)
    (fun _ _ _ => rfl) (fun _ _ _ => rfl)
theorem step_ge (env : Env) : RTStep env .ge :=
  step_not env (step_row env (op := .lt) fun _ _ => rfl) (fun _ _ _ => enc_not _ _ _ rfl rfl rfl) (fun _ _ _ => rfl)
    (fun _ _ _ => rfl) (fun _ _ _ => rfl)
theorem step_le (env : Env) : RTStep env .le :=
  step_not env (step_row env (op := .gt) fun _ _ => rfl) (fun _ _ _ => enc_not _ _ _ rfl rfl rfl) (fun _ _ _ => rfl)
    (fun _ _ _ => rfl) (fun _ _ _ => rfl)

end Acpi.Lemmas.AmlParse
