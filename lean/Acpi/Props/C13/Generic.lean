/-
  C13, generic typed operations: `Sdt::append<T>` and `Sdt::write<T>` accept every
  `T: IntoBytes + Immutable + FromBytes` — not only `u8 … u64` but byte arrays of any length,
  `u128`, `sdt::GenericAddress` (12 bytes) … — and act on `value.as_bytes()`.  The model's
  `appendT` / `writeBytes` take those raw bytes; this file states that for the table they are
  indistinguishable from the slice operations on the same bytes, so the typed operation of any
  width is the reference machine's append / overwrite.
-/
import Acpi.Sdt
import Acpi.Lemmas.Sdt
namespace Acpi.C13
open Acpi.Sdt

/-- **C13 (typed append of any width)**: `append<T>(value)` (resize, Length write, data write, two
    checksum recomputations) leaves the table exactly as `append_slice(value.as_bytes())` does
    (Length write into the old data, extend, one recomputation) — both are the reference machine's
    single append. -/
theorem appendT_eq_appendSlice (s : Sdt) (v : Bytes) (h : 10 ≤ s.data.length) :
    s.appendT v = s.appendSlice v := by
  rw [Sdt.appendT_spec s v (by omega), Sdt.appendSlice_spec s v (by omega)]

/-- `write<T>(offset, value)` is `write_bytes(offset, value.as_bytes())` by definition; in range it
    is accepted, out of range refused.  (What an accepted write does: `Sdt.writeBytes_spec`.) -/
theorem writeT_accepted_iff (s : Sdt) (off : Nat) (v : Bytes) :
    (s.writeBytes off v).isSome ↔ off + v.length ≤ s.data.length := by
  unfold writeBytes
  split <;> simp_all

/-- non-vacuity: a 3-byte array appended to a fresh 36-byte table is accepted, by both routes, with
    the same result -/
example : ((Sdt.new [0x54, 0x45, 0x53, 0x54] 36 1 [1, 2, 3, 4, 5, 6] [1, 2, 3, 4, 5, 6, 7, 8] 7).bind
      fun s => (s.appendT [9, 8, 7]).map fun s' => (s.appendSlice [9, 8, 7] == some s', s'.data.length)) =
    some (true, 39) := by decide +kernel

end Acpi.C13
