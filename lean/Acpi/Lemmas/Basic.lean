import Acpi.Basic
namespace Acpi

/-- `sum8` is core's `List.sum` on `UInt8`: the fold, `nil`, `cons` and `append` lemmas that
    follow are core's, restated. -/
theorem sum8_eq_sum (bs : Bytes) : sum8 bs = bs.sum := List.sum_eq_foldl.symm

theorem foldl_add_acc (bs : Bytes) (a : UInt8) : bs.foldl (· + ·) a = a + sum8 bs := by
  simpa [sum8] using List.foldl_assoc (op := fun x y : UInt8 => x + y) (l := bs) (a₁ := a) (a₂ := 0)

theorem foldl_sub_acc (bs : Bytes) (a : UInt8) : bs.foldl (· - ·) a = a - sum8 bs := by
  simpa [sum8] using List.foldl_hom (a - ·) (g₁ := (· + ·)) (g₂ := (· - ·)) (l := bs) (init := 0)
    fun x y => by grind

@[simp] theorem sum8_nil : sum8 [] = 0 := rfl

@[simp] theorem sum8_cons (b : UInt8) (bs : Bytes) : sum8 (b :: bs) = b + sum8 bs := by
  simp [sum8_eq_sum]

@[simp] theorem sum8_append (a b : Bytes) : sum8 (a ++ b) = sum8 a + sum8 b := by
  simp [sum8_eq_sum, List.sum_append]

@[simp] theorem sum8_zeros (n : Nat) : sum8 (zeros n) = 0 := by
  induction n with
  | zero => rfl
  | succ n ih => rw [zeros, List.replicate_succ, sum8_cons, ← zeros, ih]; rfl

/-- replacing one byte moves the sum by the difference (written without subtraction) -/
theorem sum8_set_add (l : Bytes) (i : Nat) (x : UInt8) (h : i < l.length) :
    sum8 (l.set i x) + l[i] = sum8 l + x := by
  induction l generalizing i with
  | nil => cases h
  | cons y ys ih =>
    cases i with
    | zero => simp only [List.set_cons_zero, sum8_cons, List.getElem_cons_zero]; grind
    | succ i =>
      have := ih i (Nat.lt_of_succ_lt_succ h)
      simp only [List.set_cons_succ, sum8_cons, List.getElem_cons_succ]
      grind

theorem sum8_map_set (l : List Nat) (i v : Nat) (h : i < l.length) :
    sum8 ((l.set i v).map UInt8.ofNat) + UInt8.ofNat (l.getD i 0) =
      sum8 (l.map UInt8.ofNat) + UInt8.ofNat v := by
  have := sum8_set_add (l.map UInt8.ofNat) i (UInt8.ofNat v) (by simpa using h)
  rw [List.map_set]
  simpa [List.getD_eq_getElem?_getD, h] using this

/-- `(255 - x).wrapping_add(1)`, the form lib.rs computes checksums in, is negation -/
theorem sub_255_add_one (x : UInt8) : 255 - x + 1 = 0 - x := by grind

theorem genChecksum_eq (bs : Bytes) : genChecksum bs = 0 - sum8 bs := sub_255_add_one _

@[simp] theorem length_leN (w n : Nat) : (leN w n).length = w := by
  induction w generalizing n with
  | zero => rfl
  | succ w ih => simp [leN, ih]

@[simp] theorem length_u16le (x : UInt16) : (u16le x).length = 2 := rfl
@[simp] theorem length_u32le (x : UInt32) : (u32le x).length = 4 := rfl
@[simp] theorem length_u64le (x : UInt64) : (u64le x).length = 8 := rfl
@[simp] theorem length_zeros (n : Nat) : (zeros n).length = n := by simp [zeros]

/-- `leN` by shifts, the form the encoders `u16le … u64le` are written in -/
theorem leN_succ_shift (w n : Nat) : leN (w + 1) n = UInt8.ofNat n :: leN w (n >>> 8) := by
  rw [leN, UInt8.ofNat_mod_size', Nat.shiftRight_eq_div_pow]

theorem leN_one (n : Nat) : leN 1 n = [UInt8.ofNat n] := by
  rw [leN_succ_shift, leN]

theorem leN_one_toNat (v : UInt8) : leN 1 v.toNat = [v] := by
  rw [leN_one, UInt8.ofNat_toNat]

theorem leN_zero (w : Nat) : leN w 0 = zeros w := by
  induction w with
  | zero => rfl
  | succ w ih => simp [leN, ih, zeros, List.replicate_succ]

theorem leN_add (a b v : Nat) : leN (a + b) v = leN a v ++ leN b (v / 256 ^ a) := by
  induction a generalizing v with
  | zero => simp [leN]
  | succ a ih =>
    rw [show a + 1 + b = (a + b) + 1 by omega]
    simp only [leN, List.cons_append, ih]
    rw [Nat.div_div_eq_div_mul, Nat.pow_succ, Nat.mul_comm]

theorem leN_mod (w n : Nat) : leN w (n % 256 ^ w) = leN w n := by
  induction w generalizing n with
  | zero => rfl
  | succ w ih =>
    simp only [leN]
    rw [Nat.pow_succ, Nat.mul_comm, Nat.mod_mul_right_mod, Nat.mod_mul_right_div_self, ih]

theorem leN_of_lt (a b v : Nat) (h : v < 256 ^ a) : leN (a + b) v = leN a v ++ zeros b := by
  rw [leN_add, Nat.div_eq_of_lt h, leN_zero]

theorem fromLE_leN (w n : Nat) : fromLE (leN w n) = n % 256 ^ w := by
  induction w generalizing n with
  | zero => simp [leN, fromLE, Nat.mod_one]
  | succ w ih =>
    simp only [leN, fromLE, ih]
    have : (UInt8.ofNat (n % 256)).toNat = n % 256 := by
      simp [UInt8.toNat_ofNat']
    rw [this, Nat.pow_succ, Nat.mul_comm (256 ^ w) 256, Nat.mod_mul]

theorem fromLE_leN_of_lt {w n : Nat} (h : n < 256 ^ w) : fromLE (leN w n) = n := by
  rw [fromLE_leN]; exact Nat.mod_eq_of_lt h

theorem u16le_eq_leN (x : UInt16) : u16le x = leN 2 x.toNat := by
  simp only [u16le, leN_succ_shift, leN.eq_1, ← Nat.shiftRight_add, ← UInt8.ofNat_uInt16ToNat,
    UInt16.toNat_shiftRight]
  rfl

theorem u32le_eq_leN (x : UInt32) : u32le x = leN 4 x.toNat := by
  simp only [u32le, leN_succ_shift, leN.eq_1, ← Nat.shiftRight_add, ← UInt8.ofNat_uInt32ToNat,
    UInt32.toNat_shiftRight]
  rfl

theorem u64le_eq_leN (x : UInt64) : u64le x = leN 8 x.toNat := by
  simp only [u64le, leN_succ_shift, leN.eq_1, ← Nat.shiftRight_add, ← UInt8.ofNat_uInt64ToNat,
    UInt64.toNat_shiftRight]
  rfl

/-- `n as u16 … u64`, little-endian, is the low bits of `n` -/
theorem u16le_ofNat (n : Nat) : u16le (UInt16.ofNat n) = leN 2 n := by
  rw [u16le_eq_leN, UInt16.toNat_ofNat', ← leN_mod 2 n]

theorem u32le_ofNat (n : Nat) : u32le (UInt32.ofNat n) = leN 4 n := by
  rw [u32le_eq_leN, UInt32.toNat_ofNat', ← leN_mod 4 n]

theorem u64le_ofNat (n : Nat) : u64le (UInt64.ofNat n) = leN 8 n := by
  rw [u64le_eq_leN, UInt64.toNat_ofNat', ← leN_mod 8 n]

theorem fromLE_lt (bs : Bytes) : fromLE bs < 256 ^ bs.length := by
  induction bs with
  | nil => simp [fromLE]
  | cons b bs ih =>
    have hb : b.toNat < 256 := b.toNat_lt
    simp only [fromLE, List.length_cons, Nat.pow_succ]
    omega

theorem readAt_lt {raw : Bytes} {o w v : Nat} (h : readAt raw o w = some v) : v < 256 ^ w := by
  unfold readAt at h
  split at h
  · cases h
    exact Nat.lt_of_lt_of_le (fromLE_lt _) (Nat.pow_le_pow_right (by decide) (by simp; omega))
  · cases h

/-! ### `readAt` only looks at the bytes it names -/

theorem readAt_append_left (a b : Bytes) (off w : Nat) (h : off + w ≤ a.length) :
    readAt (a ++ b) off w = readAt a off w := by
  unfold readAt
  have h' : off + w ≤ (a ++ b).length := by simp only [List.length_append]; omega
  rw [if_pos h, if_pos h', List.drop_append_of_le_length (by omega),
    List.take_append_of_le_length (by simp only [List.length_drop]; omega)]

theorem readAt_mid (a x b : Bytes) (off w : Nat) (ho : off = a.length) (hx : w = x.length) :
    readAt (a ++ x ++ b) off w = some (fromLE x) := by
  subst ho hx
  unfold readAt
  have h' : a.length + x.length ≤ (a ++ x ++ b).length := by
    simp only [List.length_append]; omega
  rw [if_pos h', List.append_assoc, List.drop_left' rfl, List.take_left' rfl]

theorem readAt_mid_leN (a b : Bytes) (off w v : Nat) (ho : off = a.length) :
    readAt (a ++ leN w v ++ b) off w = some (v % 256 ^ w) := by
  rw [readAt_mid a _ b off w ho (length_leN w v).symm, fromLE_leN]

theorem readAt_sub (img : Bytes) (hnd n off w v : Nat) (hw : 0 < w)
    (hr : readAt ((img.drop hnd).take n) off w = some v) : readAt img (hnd + off) w = some v := by
  unfold readAt at hr ⊢
  split at hr
  · rename_i hle
    simp only [List.length_take, List.length_drop] at hle
    rw [if_pos (by omega), ← hr, List.drop_take, List.take_take, List.drop_drop,
      Nat.min_eq_left (by omega)]
  · cases hr

theorem length_le_sum_map {α : Type} (l : List α) (f : α → Nat) (h : ∀ x, 1 ≤ f x) :
    l.length ≤ (l.map f).sum := by
  induction l with
  | nil => simp
  | cons x l ih => have := h x; simp only [List.length_cons, List.map_cons, List.sum_cons]; omega

theorem length_flatten_map_fst (es : List (Bytes × Nat)) (hcl : ∀ e ∈ es, e.2 = e.1.length) :
    (es.map (·.1)).flatten.length = (es.map (·.2)).sum := by
  rw [List.length_flatten, List.map_map]
  exact congrArg List.sum (List.map_congr_left fun e he => (hcl e he).symm)

theorem flatten_drop_take (L : List Bytes) (i : Nat) (hi : i < L.length) :
    (L.flatten.drop ((L.take i).map (·.length)).sum).take L[i].length = L[i] := by
  induction L generalizing i with
  | nil => simp at hi
  | cons x L ih =>
    cases i with
    | zero =>
      simp only [List.take_zero, List.map_nil, List.sum_nil, List.drop_zero, List.flatten_cons,
        List.getElem_cons_zero]
      exact List.take_left' rfl
    | succ i =>
      simp only [List.length_cons] at hi
      simp only [List.take_succ_cons, List.map_cons, List.sum_cons, List.flatten_cons,
        List.getElem_cons_succ]
      rw [← List.drop_drop, List.drop_left' rfl]
      exact ih i (by omega)

theorem getD_set {α : Type} (l : List α) (k m : Nat) (v d : α) (hk : k < l.length) :
    (l.set k v).getD m d = if k = m then v else l.getD m d := by
  rw [List.getD_eq_getElem?_getD, List.getD_eq_getElem?_getD, List.getElem?_set]
  by_cases h : k = m
  · subst h; simp [hk]
  · simp [h]

theorem getD_zeros (n i : Nat) (d : UInt8) (hi : i < n) : (zeros n).getD i d = 0 := by
  unfold zeros
  rw [List.getD_eq_getElem?_getD, List.getElem?_replicate, if_pos hi]; rfl

theorem range_map_getD {α : Type} (l : List α) (d : α) {n : Nat} (hn : l.length = n) :
    (List.range n).map (l.getD · d) = l := by
  subst hn
  apply List.ext_getElem
  · simp
  · intro i h1 h2
    simp [List.getD_eq_getElem?_getD, h2]

theorem snoc_induction {α : Type} {P : List α → Prop} (hnil : P [])
    (hsnoc : ∀ l a, P l → P (l ++ [a])) : ∀ l, P l := by
  intro l
  have : ∀ r : List α, P r.reverse := by
    intro r
    induction r with
    | nil => exact hnil
    | cons a r ih => rw [List.reverse_cons]; exact hsnoc _ _ ih
  have h := this l.reverse
  rwa [List.reverse_reverse] at h

theorem takeWhile_of_all {α : Type} (p : α → Bool) (l : List α) (h : ∀ a ∈ l, p a = true) :
    l.takeWhile p = l := by
  simpa using List.takeWhile_append_of_pos (l₂ := []) h

/-- disjoint bit ranges add up: why an OR of flags, or of shifted bit fields, is their sum.  (Where
    the bits are constants, as in `or2_eq_add` or the GICC flags, going through the cases is shorter.) -/
theorem or_eq_add_of_lt_of_dvd {x y : Nat} (i : Nat) (hx : x < 2 ^ i) (hy : 2 ^ i ∣ y) :
    x ||| y = x + y := by
  obtain ⟨a, rfl⟩ := hy
  rw [Nat.or_comm, Nat.add_comm, Nat.two_pow_add_eq_or_of_lt hx]

/-- core has this for `BitVec` only -/
theorem add_eq_or_of_and_eq_zero (a b : Nat) (h : a &&& b = 0) : a + b = a ||| b := by
  have ha : a < 2 ^ (a + b + 1) := Nat.lt_of_le_of_lt (by omega) Nat.lt_two_pow_self
  have hb : b < 2 ^ (a + b + 1) := Nat.lt_of_le_of_lt (by omega) Nat.lt_two_pow_self
  have hab : a + b < 2 ^ (a + b + 1) := Nat.lt_of_le_of_lt (by omega) Nat.lt_two_pow_self
  have := congrArg BitVec.toNat (BitVec.add_eq_or_of_and_eq_zero (BitVec.ofNat (a + b + 1) a)
    (BitVec.ofNat (a + b + 1) b)
    (by apply BitVec.eq_of_toNat_eq; simp [Nat.mod_eq_of_lt ha, Nat.mod_eq_of_lt hb, h]))
  simpa [Nat.mod_eq_of_lt ha, Nat.mod_eq_of_lt hb, Nat.mod_eq_of_lt hab] using this

theorem two_pow_dvd_shiftLeft (x i : Nat) : 2 ^ i ∣ x <<< i :=
  ⟨x, by rw [Nat.shiftLeft_eq, Nat.mul_comm]⟩

theorem shiftLeft_or (x f i : Nat) (hf : f < 2 ^ i) : x <<< i ||| f = x * 2 ^ i + f := by
  rw [← Nat.shiftLeft_add_eq_or_of_lt hf, Nat.shiftLeft_eq]

theorem or_and_pow2 (x y i : Nat) :
    ((x ||| y) &&& 2 ^ i = 2 ^ i ↔ (x &&& 2 ^ i = 2 ^ i ∨ y &&& 2 ^ i = 2 ^ i)) := by
  have t : ∀ z : Nat, (z &&& 2 ^ i = 2 ^ i ↔ z.testBit i = true) := by
    intro z
    constructor
    · intro h
      have := congrArg (fun v => Nat.testBit v i) h
      simpa [Nat.testBit_and, Nat.testBit_two_pow_self] using this
    · intro h
      apply Nat.eq_of_testBit_eq
      intro j
      rw [Nat.testBit_and, Nat.testBit_two_pow]
      by_cases hij : i = j
      · subst hij; simp [h]
      · simp [hij]
  rw [t, t, t, Nat.testBit_or, Bool.or_eq_true]

end Acpi
