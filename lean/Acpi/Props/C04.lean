/-
  C04 — caller values land at their specification offsets (image = reference encoding).
  Also carries C11 (option builders) and C12 (HMAT matrix): the reference layouts of
  Acpi.Spec.Layout give every builder call its *set* meaning (flag = union of the bits of
  the options invoked, valued option = its last value, matrix cell = last value assigned to
  that cell), whereas the model folds the calls in program order like the Rust does.

  The kinds with builder calls or side conditions have their theorems in Madt, SratHmatPptt,
  RhctRimtViot and CedtHestMisc under Acpi/Props/C04/ (several table families each); this file
  assembles them, treats the remaining kinds in two arms of `entry_conforms`, and states the
  decoding direction.  The fixed tables, whole tables, mixed programs, the PPTT field theorems
  and the GED entry are in the other files of that directory, which build on this one; Misc (the
  two Generic Address Structure constructors) stands alone.
-/
import Acpi.Props.C04.Madt
import Acpi.Props.C04.SratHmatPptt
import Acpi.Props.C04.RhctRimtViot
import Acpi.Props.C04.CedtHestMisc
import Acpi.Lemmas.Conf
import Acpi.Lemmas.Instances
namespace Acpi.C04
open Spec

/-- **C04 (entries)**: for every entry/sub-structure kind with a claimed reference layout, every
    constructor argument tuple and every sequence of builder calls within their Rust types
    (`entryWf`; for RQSC resources additionally the 32-bit ids, `qosCtorWf`), if the program
    does not panic then the serialised bytes are exactly the reference encoding: right size,
    every field at its specification offset with the caller's value, constants and reserved
    fields as specified, and nothing else (the rows tile the structure).

    `.ged` is excluded: ACPI's Generic Error Data Entry starts with a 16-byte section-type
    GUID, the crate has a `u16` (recorded finding, see `ged_counterexample`). -/
theorem entry_conforms (k : Kind) (c : EArgs) (opts : List Opt) (a : EArgs)
    (hk : k ≠ .ged) (hwf : entryWf k c opts = true) (hq : k = .qosctrl → qosCtorWf c)
    (h : buildEntry k c opts = .ok a) :
    layoutOracle k c opts (entryBytes k a) = none := by
  cases k with
  -- no builder calls, rows and fields written out: the constructor state renders to the rows as it stands
  | lapic | ioapic | gicd | gicr | its | rintc | imsic | mpd | cmo | mmu | mmioep | mmioiommu | ecam | xsdtEntry
  | gas =>
    exact Builder.conforms_noCalls (fun _ _ => rfl) rfl rfl (by simp [layout]) hwf h
  | gicc => exact conforms_gicc c opts a hwf h
  | gicmsi => exact conforms_gicmsi c opts a hwf h
  | aplic | plic =>
    -- the hardware id is an 8-byte blob (`ctorWf`), which is what the tiling needs
    have hb : (c.blob 0).length = 8 := by simpa [ctorWf] using (Builder.build_unpack hwf h).1
    exact Builder.conforms_noCalls (fun _ _ => rfl) rfl (by simp [tilesFrom, Row.off, Row.width, hb])
      (by simp [layout]) hwf h
  | mem => exact conforms_mem c opts a hwf h
  | gi => exact conforms_gi c opts a hwf h
  | rintcAff => exact conforms_rintcAff c opts a hwf h
  | loc => exact conforms_loc c opts a hwf h
  | msc => exact conforms_msc c opts a hwf h
  | proc => exact conforms_proc c opts a hwf h
  | cache => exact conforms_cache c opts a hwf h
  | isa => exact conforms_isa c opts a hwf h
  | hart => exact conforms_hart c opts a hwf h
  | iommu => exact conforms_iommu c opts a hwf h
  | pcierc => exact conforms_pcierc c opts a hwf h
  | platform => exact conforms_platform c opts a hwf h
  | idmap => exact conforms_idmap c opts a hwf h
  | wire => exact conforms_wire c opts a hwf h
  | pcirange => exact conforms_pcirange c opts a hwf h
  | pciiommu => exact conforms_pciiommu c opts a hwf h
  | chbs => exact conforms_chbs c opts a hwf h
  | cfmws => exact conforms_cfmws c opts a hwf h
  | cxims => exact conforms_cxims c opts a hwf h
  | rdpas => exact conforms_rdpas c opts a hwf h
  | aerrp => exact conforms_aerrp c opts a hwf h
  | aerdev => exact conforms_aerdev c opts a hwf h
  | aerbr => exact conforms_aerbr c opts a hwf h
  | ghes => exact conforms_ghes c opts a hwf h
  | ghesv2 => exact conforms_ghesv2 c opts a hwf h
  | notif => exact conforms_notif c opts a hwf h
  | ges => exact conforms_ges c opts a hwf h
  | ged => exact absurd rfl hk
  | qosctrl => exact conforms_qosctrl c opts a hwf (hq rfl) h

/-- a conforming image *is* the reference encoding (`conforms_none_iff`), hence **decoding** it
    with the specification-derived layout returns exactly the caller's values: every row (field)
    is read back at its offset. -/
theorem decode_rows (total : Nat) (rs : List Row) (img : Bytes)
    (h : conforms total rs img = none) : ∀ r ∈ rs, rowHolds img r = true :=
  fun _ hm => conforms.holds h hm

/-- the recorded finding, as a theorem about the model: a default Generic Error Data Entry
    is 58 bytes where the reference encoding has 72 -/
theorem ged_counterexample :
    layoutOracle .ged { n := #[0, 0, 0, 0, 0, 0], b := #[zeros 16, zeros 20, zeros 8] } []
      (entryBytes .ged { n := #[0, 0, 0, 0, 0, 0], b := #[zeros 16, zeros 20, zeros 8] }) ≠ none := by
  decide

/-- non-vacuity: a PPTT cache node built with three builder calls meets the hypotheses -/
example : entryWf .cache {} [⟨"size", [4096]⟩, ⟨"ctype", [2]⟩, ⟨"size", [8192]⟩] = true ∧
    ∃ a, buildEntry .cache {} [⟨"size", [4096]⟩, ⟨"ctype", [2]⟩, ⟨"size", [8192]⟩] = .ok a :=
  ⟨by decide, _, rfl⟩

end Acpi.C04
