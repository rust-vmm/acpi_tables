/-
  Child lists: exactly-n TermArgs (method invocation), TermList bodies, PackageElementLists,
  FieldLists.
-/
import Acpi.Lemmas.AmlKids
namespace Acpi.Lemmas.AmlParse
open Spec Spec.Aml

theorem catOpt_nil : catOpt (AmlList.encs .nil) = some [] := rfl

theorem all_cons {p : Aml → Bool} {a : Aml} {r : AmlList} (h : (AmlList.toList (.cons a r)).all p = true) :
    p a = true ∧ (AmlList.toList r).all p = true := by
  simpa [AmlList.toList] using h

theorem parseTerms_kids (env : Env) (kids : AmlList) (d : Bytes) (ih : RTs env kids) (hw : wfs env kids = true)
    (hk : kids.toList.all okTerm = true) (hd : catOpt (AmlList.encs kids) = some d) :
    ∀ (f : Nat) (rest : Bytes), 8 * d.length + 17 ≤ f →
      parseTerms env f kids.length (d ++ rest) = some (TmList.ofList (meanings kids), rest) := by
  induction kids, d, hd using catOpt_encs_induction with
  | nil => exact fun f rest _ => parseTerms_zero env f rest
  | cons a r ea dr he _ ihr =>
    intro f rest hf
    obtain ⟨hka, hkr⟩ := all_cons hk
    simp only [wfs, Bool.and_eq_true] at hw
    have T := ih.1.tfact hw.1 hka he
    have := T.nonempty
    simp only [List.length_append] at hf
    obtain ⟨f, rfl⟩ := Nat.exists_eq_add_one_of_ne_zero (by omega : f ≠ 0)
    simp only [List.append_assoc, AmlList.length, parseTerms, T f _ (by omega),
      ihr ih.2 hw.2 hkr f rest (by omega), Option.map_some]
    rfl

theorem parseTermList_kids (env : Env) (kids : AmlList) (d : Bytes) (ih : RTs env kids) (hw : wfs env kids = true)
    (hk : kids.toList.all okTerm = true) (hd : catOpt (AmlList.encs kids) = some d) :
    ∀ (f : Nat), 8 * d.length + 17 ≤ f → parseTermList env f d = some (TmList.ofList (meanings kids)) := by
  induction kids, d, hd using catOpt_encs_induction with
  | nil => exact fun f _ => parseTermList_nil env f
  | cons a r ea dr he _ ihr =>
    intro f hf
    obtain ⟨hka, hkr⟩ := all_cons hk
    simp only [wfs, Bool.and_eq_true] at hw
    have T := ih.1.tfact hw.1 hka he
    have hne := T.nonempty
    simp only [List.length_append] at hf
    obtain ⟨f, rfl⟩ := Nat.exists_eq_add_one_of_ne_zero (by omega : f ≠ 0)
    have hnil : ea ++ dr ≠ [] := by
      intro e; have := congrArg List.length e; simp only [List.length_append, List.length_nil] at this; omega
    exact parseTermList_cons env f _ dr _ _ hnil (T f dr (by omega)) (ihr ih.2 hw.2 hkr f (by omega))

/-- the head operator of a term -/
def _root_.Acpi.Spec.Aml.Tm.sop : Tm → SOp
  | .node o _ _ _ => o

theorem meaning_nameRef (op : Op) (ints : List Nat) (blobs : List Bytes) (kids : AmlList)
    (i : List Nat) (b : List Bytes) (k : TmList)
    (h : meaning (.node op ints blobs kids) = .node .nameRef i b k) :
    op = .path ∨ op = .call ∨ op = .fieldname := by
  cases op
  case path => exact .inl rfl
  case call => exact .inr (.inl rfl)
  case fieldname => exact .inr (.inr rfl)
  -- the head of `meaning` is fixed by the constructor alone
  all_goals exact SOp.noConfusion (congrArg Tm.sop h)

theorem parseTerm_lead_inv (env : Env) (f : Nat) (b : UInt8) (bs r : Bytes) (tm : Tm)
    (hb : isNameLead b = true) (h : parseTerm env f (b :: bs) = some (tm, r)) :
    ∃ rt segs args, tm = mkName rt segs args := by
  cases f with
  | zero => simp [parseTerm] at h
  | succ f =>
    obtain ⟨h1, h2, h3, h4, _⟩ := lead_classes b hb
    rw [parseTerm.eq_3] at h
    simp only [if_neg h1, if_neg h2, if_neg h3, if_neg h4, hb, if_true] at h
    split at h
    · simp only [Option.map_eq_some_iff, Prod.mk.injEq] at h
      obtain ⟨⟨args, r'⟩, _, rfl, _⟩ := h
      exact ⟨_, _, _, rfl⟩
    · simp at h

/-- the extra condition `wf` puts on package elements -/
def elemOk : Aml → Bool
  | .node .call _ _ k => k.length = 0
  | _ => true

theorem elem_name_or_term (env : Env) (a : Aml) (ea : Bytes) (i : RT env a) (hw : wf env a = true)
    (hk : okTerm a = true) (hel : elemOk a = true) (he : a.enc = some ea) :
    (NFact ea (meaning a)) ∨ (∃ b t, ea = b :: t ∧ ¬ isNameLead b = true) := by
  have T := i.tfact hw hk he
  obtain ⟨op, ints, blobs, kids⟩ := a
  by_cases hp : op = .path
  · subst hp
    exact .inl (NFact.of_pathNode hw he)
  · by_cases hc : op = .call
    · subst hc
      left
      simp only [elemOk, decide_eq_true_eq] at hel
      cases kids with
      | cons _ _ => simp [AmlList.length] at hel
      | nil =>
        obtain ⟨p, _, hp', ⟨⟩, rfl⟩ := call_enc_some he
        simp only [wf, Bool.and_eq_true, decide_eq_true_eq] at hw
        have : meaning (.node .call ints blobs .nil) = nameOf (blobs.getD 0 []) := rfl
        rw [this, List.append_nil]
        exact NFact.path hp' hw.2.1.1
    · right
      have hne := T.nonempty
      cases ea with
      | nil => simp at hne
      | cons b t =>
        refine ⟨b, t, rfl, fun hb => ?_⟩
        have := T (8 * (b :: t).length + 16) [] (Nat.le_refl _)
        obtain ⟨rt, segs, args, hm⟩ := parseTerm_lead_inv env _ b _ _ _ hb this
        rcases meaning_nameRef op ints blobs kids _ _ _ hm with h | h | h
        · exact hp h
        · exact hc h
        · subst h; simp [okTerm] at hk

theorem parseElems_kids (env : Env) (kids : AmlList) (d : Bytes) (ih : RTs env kids) (hw : wfs env kids = true)
    (hk : kids.toList.all okTerm = true) (hel : kids.toList.all elemOk = true)
    (hd : catOpt (AmlList.encs kids) = some d) :
    ∀ (f : Nat), 8 * d.length + 17 ≤ f → parseElems env f d = some (TmList.ofList (elems kids)) := by
  induction kids, d, hd using catOpt_encs_induction with
  | nil => exact fun f _ => parseElems_nil env f
  | cons a r ea dr he _ ihr =>
    intro f hf
    obtain ⟨hka, hkr⟩ := all_cons hk
    have hel' := all_cons hel
    simp only [wfs, Bool.and_eq_true] at hw
    have T := ih.1.tfact hw.1 hka he
    have hne := T.nonempty
    simp only [List.length_append] at hf
    obtain ⟨f, rfl⟩ := Nat.exists_eq_add_one_of_ne_zero (by omega : f ≠ 0)
    have hrec := ihr ih.2 hw.2 hkr hel'.2 f (by omega)
    show parseElems env (f + 1) (ea ++ dr) = some (TmList.ofList (meaning a :: elems r))
    rcases elem_name_or_term env a ea ih.1 hw.1 hka hel'.1 he with hN | ⟨b, t, rfl, hb⟩
    · obtain ⟨rt, segs, hm, hdec, b, t, rfl, hb⟩ := hN
      rw [hm]
      exact parseElems_name env f b (t ++ dr) dr rt segs _ hb (hdec dr) hrec
    · exact parseElems_term env f b (t ++ dr) dr _ _ hb (T f dr (by omega)) hrec

theorem parseFields_nil (f : Nat) : parseFields f [] = some .nil := by
  cases f <;> simp only [parseFields]

theorem parseFields_reserved (f : Nat) (pl rest : Bytes) (v : Nat) (ts : TmList)
    (hd : PkgLength.decode (pl ++ rest) = some (v, pl.length))
    (h : parseFields f rest = some ts) :
    parseFields (f + 1) (0x00 :: (pl ++ rest)) = some (.cons (.node .freserved [v] [] .nil) ts) := by
  simp only [parseFields, if_true, hd, List.drop_left, h, Option.map_some]

theorem parseFields_named (f : Nat) (seg pl rest : Bytes) (v : Nat) (ts : TmList)
    (hs : NameString.isSeg seg = true)
    (hd : PkgLength.decode (pl ++ rest) = some (v, pl.length))
    (h : parseFields f rest = some ts) :
    parseFields (f + 1) (seg ++ (pl ++ rest)) = some (.cons (.node .fnamed [v] [seg] .nil) ts) := by
  obtain ⟨a, b, c, d, rfl, ha⟩ := C09.isSeg_four hs
  have h0 : a ≠ 0 := by intro e; subst e; revert ha; decide
  have hdrop : List.drop (3 + pl.length) (b :: c :: d :: (pl ++ rest)) = rest := by
    rw [← List.drop_drop]
    simp only [List.drop_succ_cons, List.drop_zero, List.drop_left]
  simp only [List.cons_append, List.nil_append, parseFields, if_neg h0, List.take_succ_cons, List.take_zero,
    hs, if_true, List.drop_succ_cons, List.drop_zero, hd, hdrop, h, Option.map_some]

/-- the field entries `wf` admits -/
def fieldOk : Aml → Bool
  | .node .fnamed _ bl _ => NameString.isSeg (bl.getD 0 [])
  | .node .freserved _ _ _ => true
  | _ => false

theorem parseFields_kids (kids : AmlList) (d : Bytes) (hk : kids.toList.all fieldOk = true)
    (hd : catOpt (AmlList.encs kids) = some d) :
    ∀ f, d.length ≤ f → parseFields f d = some (TmList.ofList (meanings kids)) := by
  induction kids, d, hd using catOpt_encs_induction with
  | nil => exact fun f _ => parseFields_nil f
  | cons a r ea dr he _ ihr =>
    intro f hf
    have hk' := all_cons hk
    show parseFields f (ea ++ dr) = some (.cons (meaning a) (TmList.ofList (meanings r)))
    unfold fieldOk at hk'
    obtain ⟨hka, hkr⟩ := hk'
    split at hka
    · rename_i ints blobs k
      obtain ⟨hp, he⟩ := fentry_enc_some (named := true) he
      rw [if_pos rfl] at he; subst he
      have hm : meaning (.node .fnamed ints blobs k) = .node .fnamed [ints.getD 0 0] [blobs.getD 0 []] .nil := rfl
      have hlen : 4 ≤ (blobs.getD 0 []).length := by
        obtain ⟨_, _, _, _, heq, _⟩ := C09.isSeg_four hka
        rw [heq]; exact Nat.le_refl 4
      simp only [List.length_append] at hf
      obtain ⟨f, rfl⟩ := Nat.exists_eq_add_one_of_ne_zero (by omega : f ≠ 0)
      rw [hm, List.append_assoc]
      exact parseFields_named f _ _ dr _ _ hka (by rw [C07.length_pkgLen]; exact C07.decode_pkgLen_excl _ dr hp)
        (ihr hkr f (by omega))
    · rename_i ints blobs k
      obtain ⟨hp, he⟩ := fentry_enc_some (named := false) he
      rw [if_neg Bool.false_ne_true] at he; subst he
      have hm : meaning (.node .freserved ints blobs k) = .node .freserved [ints.getD 0 0] [] .nil := rfl
      simp only [List.length_append, List.length_cons] at hf
      obtain ⟨f, rfl⟩ := Nat.exists_eq_add_one_of_ne_zero (by omega : f ≠ 0)
      rw [hm, List.append_assoc]
      exact parseFields_reserved f _ dr _ _ (by rw [C07.length_pkgLen]; exact C07.decode_pkgLen_excl _ dr hp)
        (ihr hkr f (by omega))
    · simp at hka

end Acpi.Lemmas.AmlParse
