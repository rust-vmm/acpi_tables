/-
  What the consumers of C04 start from: `entry_rows` (C04 with the reference rows of the kind
  exposed, so that the lemmas of Lemmas/Conf apply), and why the size of an accepted entry of
  variable size is bounded (`total_le`): serialisation refuses it otherwise.  The namespace
  `Acpi.Inst` (single entry instances, as against whole tables) continues in Lemmas/SelfDescribing.
-/
import Acpi.Lemmas.Conf
import Acpi.Props.C04
namespace Acpi.Inst
open Spec

theorem entry_rows {k : Kind} {c : EArgs} {opts : List Opt} {a : EArgs} {total : Nat} {rs : List Row}
    (hk : k ≠ .ged) (hwf : entryWf k c opts = true) (hq : k = .qosctrl → C04.qosCtorWf c)
    (h : buildEntry k c opts = .ok a) (hr : rows k c opts = some (total, rs)) :
    conforms total rs (entryBytes k a) = none := by
  have := C04.entry_conforms k c opts a hk hwf hq h
  rwa [layoutOracle, hr] at this

theorem numWays_le (x : Nat) : numWays x ≤ 16 := by
  unfold numWays
  split <;> omega

/-- the largest size serialisation accepts, for the kinds of variable size that have an assert:
    what the asserts of `panics` (and, for the CFMWS, the 16 targets `numWays` allows) come to in
    terms of the total -/
def maxTotal : Kind → Nat
  | .proc => 255 | .msc => 32 + 2 * 65535 | .cxims => 8 + 8 * 255 | .cfmws => 36 + 4 * 16 | _ => 65535

/-- the converse of the C18 refusals, in terms of the reference total -/
theorem total_le (k : Kind)
    (hk : k ∈ [Kind.proc, .msc, .hart, .cxims, .isa, .iommu, .pcierc, .platform, .cfmws])
    {c a : EArgs} {opts : List Opt} (hwf : entryWf k c opts = true) (h : buildEntry k c opts = .ok a)
    {total : Nat} {rs : List Row} (hr : rows k c opts = some (total, rs)) : total ≤ maxTotal k := by
  simp only [List.mem_cons, List.not_mem_nil, or_false] at hk
  rcases hk with rfl | rfl | rfl | rfl | rfl | rfl | rfl | rfl | rfl
  -- proc, msc, hart, cxims: the elements are the state's list; the size is the total
  -- (conformance), and `panics` bounds it
  iterate 4
    · have hl := (length_encFields _).symm.trans (conforms.length (entry_rows (by decide) hwf nofun h hr))
      have hp := (Builder.buildEntry_ok h).2.2
      simp only [panics, decide_eq_false_iff_not] at hp
      simp only [fields, List.cons_append, List.nil_append, fieldsLen_cons, fieldsLen_map_num, Fld.width] at hl
      simp only [maxTotal]; omega
  -- isa, then iommu, pcierc, platform: no builder calls, so the state is the constructor's, and
  -- `panics` speaks of the total itself
  · obtain ⟨rfl, -, hp⟩ := Builder.build_noCalls_init (fun _ _ => rfl) (fun _ => rfl) h
    cases hr
    simp only [panics, decide_eq_false_iff_not] at hp
    simp only [maxTotal]
    split at hp <;> split <;> omega
  iterate 3
    · obtain ⟨rfl, -, hp⟩ := Builder.build_noCalls_init (fun _ _ => rfl) (fun _ => rfl) h
      cases hr
      simp only [panics, decide_eq_false_iff_not, C04.ite_length] at hp
      simp only [maxTotal]; omega
  -- cfmws: the number of targets is `numWays` of the interleave code
  · cases hr
    have := C04.cfmws_ways hwf h
    have := numWays_le (c.num 4)
    simp only [maxTotal]; omega

end Acpi.Inst
