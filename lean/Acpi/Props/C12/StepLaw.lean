/-
  C12 — the reference cell function itself obeys the "last value assigned" step law.

  `Spec.slitCell` (used by the reference layout that `C12.slit_cells` compares the image with) is
  written as "last matching assignment in the program, else 10".  The theorems here state what that
  means operationally, one assignment at a time, so that the reading "assignments to one cell never
  disturb another" does not rest on reading a `filter … getLast?` expression correctly:

  * before any assignment every cell is 10;
  * an assignment `set_distance a b v` makes the cells (a,b) and (b,a) equal to v …
  * … and leaves every other cell as it was;
  * an operation that is not a distance assignment leaves every cell as it was.

  By induction these four determine `slitCell` uniquely (`slitCell_unique`).
-/
import Acpi.Props.C12
namespace Acpi.C12
open Spec

/-- the two cells a `set_distance a b _` call governs -/
def governs (a b i j : Nat) : Prop := (a = i ∧ b = j) ∨ (a = j ∧ b = i)

instance (a b i j : Nat) : Decidable (governs a b i j) := by unfold governs; infer_instance

theorem slitCell_nil (i j : Nat) : slitCell [] i j = 10 := rfl

/-- one more assignment: the governed cells take the new value, all others keep theirs -/
theorem slitCell_append_dist (ops : List Opt) (a b v i j : Nat) :
    slitCell (ops ++ [⟨"dist", [a, b, v]⟩]) i j = if governs a b i j then v else slitCell ops i j := by
  unfold slitCell
  rw [Builder.last_snoc]
  simp [governs, Opt.arg]

/-- an operation that is not `set_distance` disturbs no cell -/
theorem slitCell_append_other (ops : List Opt) (op : Opt) (hop : op.name ≠ "dist") (i j : Nat) :
    slitCell (ops ++ [op]) i j = slitCell ops i j := by
  unfold slitCell
  rw [Builder.last_snoc, if_neg (by simp [hop])]

/-- the step law determines the cell function: any `f` that starts at 10 and obeys the two step
    equations is `slitCell` (on programs of well-formed `dist` calls and other operations) -/
theorem slitCell_unique (f : List Opt → Nat → Nat → Nat)
    (h0 : ∀ i j, f [] i j = 10)
    (hd : ∀ ops a b v i j, f (ops ++ [⟨"dist", [a, b, v]⟩]) i j = if governs a b i j then v else f ops i j)
    (ho : ∀ ops (op : Opt), op.name ≠ "dist" → ∀ i j, f (ops ++ [op]) i j = f ops i j)
    (ops : List Opt) (hwf : ∀ op ∈ ops, op.name = "dist" → ∃ a b v, op = ⟨"dist", [a, b, v]⟩) (i j : Nat) :
    f ops i j = slitCell ops i j := by
  induction ops using snoc_induction with
  | hnil => rw [h0, slitCell_nil]
  | hsnoc ops op ih =>
    have ih := ih fun o ho' => hwf o (List.mem_append_left _ ho')
    by_cases hnm : op.name = "dist"
    · obtain ⟨a, b, v, rfl⟩ := hwf op (by simp) hnm
      rw [hd, slitCell_append_dist, ih]
    · rw [ho ops op hnm, slitCell_append_other ops op hnm, ih]

/-- non-vacuity: a concrete history — (0,1)←20, (1,2)←30, (1,0)←25 — read cell by cell -/
example : slitCell [⟨"dist", [0, 1, 20]⟩, ⟨"dist", [1, 2, 30]⟩, ⟨"dist", [1, 0, 25]⟩] 0 1 = 25 ∧
    slitCell [⟨"dist", [0, 1, 20]⟩, ⟨"dist", [1, 2, 30]⟩, ⟨"dist", [1, 0, 25]⟩] 2 1 = 30 ∧
    slitCell [⟨"dist", [0, 1, 20]⟩, ⟨"dist", [1, 2, 30]⟩, ⟨"dist", [1, 0, 25]⟩] 0 2 = 10 := by decide

end Acpi.C12
