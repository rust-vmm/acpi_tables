/-
  C03 for single entries: every entry the model serialises announces, in the
  header style of its table, its specification type code and its own length, so the side
  condition `SelfDescribing` of C03.walk_flatten / C03.table_entries holds for every kind.
-/
import Acpi.Lemmas.SelfDescribing
namespace Acpi.C03
open Spec

/-- **C03 (entries)**: for every kind that belongs to a table (`tableOf k = some t`), except the
    CEDT RDPAS record (recorded finding), the serialised entry is self-describing for its
    table's walk style with the specification's type code.

    HYPOTHESES (the statement without them is false, see `loc_needs_h32` and
    `qosctrl_needs_hty` below):
    * `h32` — an HMAT locality structure is smaller than 4 GiB (its Length field has 4 bytes and
      the model puts no bound on the numbers of initiators and targets; "tables smaller than
      4 GiB" is the project's stated assumption).  For `.msc`, the other kind of variable size with a
      4-byte length, the bound follows from the serialisation assert and is not assumed.
    * `hty` — the RQSC controller type fits its one-byte field (a two-variant enum in the crate,
      an unconstrained number in the model). -/
theorem entry_self_describing (k : Kind) (hk : k ≠ .rdpas) (t : String) (sh : TableShape)
    (ht : tableOf k = some t) (hs : shapeOf t = some sh)
    (c : EArgs) (opts : List Opt) (a : EArgs)
    (hwf : entryWf k c opts = true) (hq : k = .qosctrl → C04.qosCtorWf c)
    (h : buildEntry k c opts = .ok a)
    (h32 : k = .loc → (entryBytes k a).length < 2 ^ 32)
    (hty : k = .qosctrl → a.num 0 < 256) :
    SelfDescribing sh.kind (typeCode k a) (entryBytes k a) := by
  have hw : walkKindOf k = some sh.kind := by rw [walkKindOf, ht, Option.bind_some, hs]; rfl
  by_cases hqc : k = .qosctrl
  · subst hqc; cases ht; cases hs
    exact Inst.sd_qosctrl c opts a hwf (hq rfl) h (hty rfl)
  · obtain ⟨total, rs, hr, hh⟩ := Inst.entry_header k hk hqc _ hw c opts a hwf h h32
    rw [Inst.typeCode_of_ne k a hqc]
    exact Inst.sd_of_conforms (Inst.entry_rows (by rintro rfl; cases ht) hwf hq h hr) hh

/-- `h32` of `entry_self_describing` cannot be dropped: an HMAT locality structure with 2^30
    initiators and one target meets all other hypotheses and is not self-describing -/
theorem loc_needs_h32 : ∃ c a, entryWf .loc c [] = true ∧ buildEntry .loc c [] = .ok a ∧
    ¬ SelfDescribing .t16l32 (typeCode .loc a) (entryBytes .loc a) := by
  refine ⟨{ n := #[0, 0, 0, 0, 2 ^ 30, 1] }, _, by decide, rfl, ?_⟩
  -- not by `decide`: the image has 6 GiB
  intro hsd
  have := Inst.length_lt_of_sd_t16l32 _ _ hsd
  rw [conforms.length (Inst.entry_rows (k := .loc) (c := { n := #[0, 0, 0, 0, 2 ^ 30, 1] }) (opts := [])
    (by decide) (by decide) nofun rfl rfl)] at this
  revert this; decide

/-- `hty` of `entry_self_describing` cannot be dropped -/
theorem qosctrl_needs_hty : ∃ c a, entryWf .qosctrl c [] = true ∧ C04.qosCtorWf c ∧
    buildEntry .qosctrl c [] = .ok a ∧
    ¬ SelfDescribing .t8l16 (typeCode .qosctrl a) (entryBytes .qosctrl a) :=
  ⟨{ n := #[256, 0, 0, 0, 0, 0, 0, 0, 0] }, _, by decide, fun i hi => absurd hi (Nat.not_lt_zero i), rfl, by decide⟩

end Acpi.C03
