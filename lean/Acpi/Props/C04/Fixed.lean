/-
  C04 / C11 / C12 for the fixed tables: the image is the reference encoding of
  Acpi.Spec.FixedLayout, whose rows give every builder call its per-field meaning (a field
  holds what the last call that writes it wrote; a flag field is the union of the flag calls
  since its last plain write; a SLIT cell holds the last distance assigned to its unordered
  pair, else 10).
-/
import Acpi.Lemmas.FixedSimple
import Acpi.Lemmas.FixedFadt
import Acpi.Lemmas.FixedTcpas
import Acpi.Lemmas.FixedSlit
namespace Acpi.C04
open Spec

/-- the OEM id and table id have their header widths; FADT `flag` / `profile` arguments and SLIT
    distances are within their Rust types (the constructor arguments are not constrained) -/
def fixedWf (t : FixedT) (o : Oem) (_c : EArgs) (ops : List Opt) : Prop :=
  o.id.length = 6 ∧ o.table.length = 8 ∧
  (t = .fadt → ∀ op ∈ ops, (op.name = "flag" → op.arg 0 < 25) ∧ (op.name = "profile" → op.arg 0 < 9)) ∧
  (t = .slit → ∀ op ∈ ops, op.name = "dist" → op.arg 2 < 256)

/-- **C04/C11/C12 (fixed tables)**: after every program that does not panic, the image conforms
    to the reference layout computed from the constructor arguments and the *program text*
    (the revision and checksum bytes are read from the image: the first is an observed
    parameter, the second is C01's business). -/
theorem fixed_conforms (t : FixedT) (o : Oem) (c : EArgs) (ops : List Opt) (s : FixedState)
    (hwf : fixedWf t o c ops) (hrun : runFixed t o c ops = some s) :
    let img := s.image
    let rev := if t = .rsdp ∨ t = .facs then 0 else (img.getD 8 0).toNat
    let cks := if t = .rsdp then (img.getD 8 0).toNat else (img.getD 9 0).toNat
    let (total, rows) := fixedRows t o c ops rev cks (img.getD 32 0).toNat
    conforms total rows img = none := by
  -- only the OEM widths are needed: model and reference both truncate a value to its field with
  -- `leN`, and a `flag` argument ≥ 25 panics
  obtain ⟨h1, h2, _, _⟩ := hwf
  intro img rev cks
  suffices h : conforms (fixedRows t o c ops rev cks (img.getD 32 0).toNat).1
      (fixedRows t o c ops rev cks (img.getD 32 0).toNat).2 img = none by
    rcases hp : fixedRows t o c ops rev cks (img.getD 32 0).toNat with ⟨total, rows⟩
    rw [hp] at h
    exact h
  cases t with
  | fadt => exact conforms_fadt o c ops s _ h1 h2 hrun
  | bert =>
    exact conforms_plain (by simp [FixedT.plain]) hrun rfl (fun _ _ _ => rfl) rfl h1 h2
      (by simp [tilesFrom, Row.off, Row.width]) (by simp [layout]) _
  | spcr =>
    exact conforms_plain (by simp [FixedT.plain]) hrun rfl
      (fun _ _ _ => by dsimp only [fixedRows]; rw [List.append_assoc, List.append_assoc]) rfl h1 h2
      (by decide) (by decide) _
  | tcpac =>
    exact conforms_plain (by simp [FixedT.plain]) hrun rfl (fun _ _ _ => rfl) rfl h1 h2
      (by simp [tilesFrom, Row.off, Row.width]) (by simp [layout]) _
  | tcpas => exact conforms_tcpas o c ops s _ h1 h2 hrun
  | tpm2 => exact conforms_tpm2 o c ops s _ h1 h2 hrun
  | rsdp => exact conforms_rsdp o c ops s _ h1 hrun
  | facs => exact conforms_facs o c ops s _ _ _ hrun
  | slit => exact conforms_slit o c ops s _ h1 h2 hrun

/-- **C12 (SLIT)**: every in-range pair is accepted. -/
theorem slit_accepts (o : Oem) (n : Nat) (ops : List Opt) (hn : n * n + 44 < 2 ^ 32)
    (hops : ∀ op ∈ ops, op.name = "dist" ∧ op.arg 0 < n ∧ op.arg 1 < n) :
    ∃ s, runFixed .slit o { n := #[n] } ops = some s := by
  have hnew : ∃ s0, FixedState.new .slit o { n := #[n] } = some s0 := by
    unfold FixedState.new
    have e : ({ n := #[n] } : EArgs).num 0 = n := rfl
    simp only [e]
    rw [if_neg (by omega)]
    exact ⟨_, rfl⟩
  obtain ⟨s0, h0⟩ := hnew
  obtain ⟨I0, ha0, _⟩ := slitInv_new h0
  have e : s0.a.num 0 = n := by rw [ha0]; rfl
  obtain ⟨s', h'⟩ := slit_accepts_from ops s0 I0 (by rw [e]; exact hops)
  exact ⟨s', by unfold runFixed; rw [h0]; exact h'⟩

end Acpi.C04
