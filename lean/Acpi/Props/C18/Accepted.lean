/-
  C18, converse half, for the whole AML tree: whatever `Aml.enc` accepts (`enc = some bs`) has
  every count and every size within its field — at the root and, recursively, at every node the
  encoder serialises — and the count / length fields it wrote agree with the content.

  The forward half (oversized ⇒ `enc = none`) is Props/C18.lean.

  `countsFit` (defined in Acpi/Lemmas/C18Accepted.lean) recurses into exactly the children a
  constructor serialises: the whole child list for the list-bodied constructors (`pkg`, `pkgb`,
  `rt`, `device`, `scope`, `scoperaw`, `method`, `field`, `if_`, `while_`, `else_`, `powerres`,
  `call`), the first 1–4 children for the fixed-arity operators (which read `k 0 … k 3` and
  ignore any further child), and no child for leaves (which ignore `kids`).  Children the
  encoder never serialises are unconstrained by acceptance, so nothing can be proved of them.
-/
import Acpi.Lemmas.C18Accepted
import Acpi.Props.C07.Objects
import Acpi.Props.C18
namespace Acpi.C18

theorem pathFits_iff (s : Bytes) :
    pathFits s = true ↔ ∃ p, Path.new s = some p ∧ p.parts.length ≤ 255 := by
  unfold pathFits
  cases h : Path.new s with
  | none => simp
  | some p => simp

/-- One unfolding step of `countsFit`: the node's own conditions, and `countsFit` of the
    children it serialises. -/
theorem countsFit_node (op : Op) (ints : List Nat) (blobs : List Bytes) (kids : AmlList) :
    countsFit (.node op ints blobs kids) =
      (nodeFits op ints blobs kids.length &&
        (match used op with
         | none => countsFitList kids
         | some n => countsFitTake n kids)) := by
  rw [countsFit]
  rfl

/-- What `countsFit` says of the root node, in plain propositions: the element count of a
    package, the argument / local / method-argument numbers, the address ranges, the field
    widths and the path segment count all fit their fields. -/
theorem countsFit_root (op : Op) (ints : List Nat) (blobs : List Bytes) (kids : AmlList)
    (h : countsFit (.node op ints blobs kids) = true) :
    (op = .pkg ∨ op = .pkgb → kids.length ≤ 255) ∧
    (op = .method → ints.getD 0 0 ≤ 7) ∧
    (op = .arg → ints.getD 0 0 ≤ 6) ∧
    (op = .local_ → ints.getD 0 0 ≤ 7) ∧
    (op = .asmem → ints.getD 3 0 ≤ ints.getD 4 0 ∧ ints.getD 4 0 - ints.getD 3 0 + 1 < 2 ^ ints.getD 0 0) ∧
    (op = .asio ∨ op = .asbus →
      ints.getD 1 0 ≤ ints.getD 2 0 ∧ ints.getD 2 0 - ints.getD 1 0 + 1 < 2 ^ ints.getD 0 0) ∧
    (op = .fnamed ∨ op = .freserved → pkgLenTotal (ints.getD 0 0) false < 2 ^ 28) ∧
    (usesPath op = true → ∃ p, Path.new (blobs.getD 0 []) = some p ∧ p.parts.length ≤ 255) := by
  rw [countsFit_node, Bool.and_eq_true] at h
  have hn := h.1
  unfold nodeFits at hn
  rw [Bool.and_eq_true] at hn
  obtain ⟨hl, hp⟩ := hn
  refine ⟨?_, ?_, ?_, ?_, ?_, ?_, ?_, ?_⟩
  · rintro (rfl | rfl) <;> exact of_decide_eq_true hl
  · rintro rfl; exact of_decide_eq_true hl
  · rintro rfl; exact of_decide_eq_true hl
  · rintro rfl; exact of_decide_eq_true hl
  · rintro rfl
    have hl' : (decide (ints.getD 3 0 ≤ ints.getD 4 0) &&
        decide (ints.getD 4 0 - ints.getD 3 0 + 1 < 2 ^ ints.getD 0 0)) = true := hl
    rw [Bool.and_eq_true] at hl'
    exact ⟨of_decide_eq_true hl'.1, of_decide_eq_true hl'.2⟩
  · rintro (rfl | rfl) <;>
    · have hl' : (decide (ints.getD 1 0 ≤ ints.getD 2 0) &&
          decide (ints.getD 2 0 - ints.getD 1 0 + 1 < 2 ^ ints.getD 0 0)) = true := hl
      rw [Bool.and_eq_true] at hl'
      exact ⟨of_decide_eq_true hl'.1, of_decide_eq_true hl'.2⟩
  · rintro (rfl | rfl) <;> exact of_decide_eq_true hl
  · intro hu
    rw [hu] at hp
    exact (pathFits_iff _).mp (by simpa using hp)

mutual
/-- **C18 converse, whole tree**: if the encoder returns bytes for a term, then at the root and
    at every descendant the encoder serialises, every count and size fits its field (package
    element count ≤ 255, method arguments ≤ 7, Arg ≤ 6, Local ≤ 7, address ranges ordered and
    sized within their width, field-entry widths below 2^28, paths with ≤ 255 segments). -/
theorem accepted_counts_fit : ∀ (t : Aml) (bs : Bytes), t.enc = some bs → countsFit t = true
  | .node op ints blobs kids, bs, h => by
    obtain ⟨hn, hk⟩ := nodeOk_of_enc_some op ints blobs kids bs h
    rw [countsFit_node, hn, Bool.true_and]
    unfold KidsAccepted at hk
    cases hu : used op with
    | none =>
      rw [hu] at hk
      obtain ⟨d, hd⟩ := hk
      exact accepted_list_counts_fit kids d hd
    | some n =>
      rw [hu] at hk
      exact accepted_take_counts_fit n kids hk
/-- list version: if a whole child list is sequenced (`catOpt … = some d`, i.e. every element
    was accepted), every element is `countsFit`. -/
theorem accepted_list_counts_fit : ∀ (l : AmlList) (d : Bytes),
    catOpt (AmlList.encs l) = some d → countsFitList l = true
  | .nil, _, _ => by rw [countsFitList]
  | .cons a r, d, h => by
    obtain ⟨ea, dr, ha, hr, _⟩ := catOpt_cons_some h
    rw [countsFitList, accepted_counts_fit a ea ha, accepted_list_counts_fit r dr hr]
    rfl
/-- prefix version, for the fixed-arity operators: if the first `n` child slots are accepted,
    the first `n` children are `countsFit`. -/
theorem accepted_take_counts_fit : ∀ (n : Nat) (l : AmlList),
    (∀ j, j < n → ∃ e, (AmlList.encs l).getD j none = some e) → countsFitTake n l = true
  | _, .nil, _ => by rw [countsFitTake]
  | 0, .cons a r, _ => by rw [countsFitTake]
  | m + 1, .cons a r, h => by
    obtain ⟨ea, ha⟩ := h 0 (Nat.succ_pos m)
    rw [AmlList.encs, List.getD_cons_zero] at ha
    have hr : ∀ j, j < m → ∃ e, (AmlList.encs r).getD j none = some e := by
      intro j hj
      obtain ⟨e, he⟩ := h (j + 1) (Nat.succ_lt_succ hj)
      rw [AmlList.encs, List.getD_cons_succ] at he
      exact ⟨e, he⟩
    rw [countsFitTake, accepted_counts_fit a ea ha, accepted_take_counts_fit m r hr]
    rfl
end

/-- **C18 converse, sizes**: an accepted length-prefixed object (any of the sixteen constructors
    that carry a PkgLength after a `w`-byte opcode) is shorter than `w + 2^28` bytes: it never
    exceeds what its PkgLength field can describe. -/
theorem accepted_size_bounded (op : Op) (ints : List Nat) (blobs : List Bytes) (kids : AmlList)
    (bs : Bytes) (w : Nat) (hw : Spec.pkgLenOpcodeWidth op = some w)
    (h : (Aml.node op ints blobs kids).enc = some bs) : bs.length < w + 2 ^ 28 := by
  obtain ⟨body, hb, ht⟩ := C07.object_framed op ints blobs kids bs w hw h
  have hl := congrArg List.length hb
  simp only [List.length_append, C07.length_pkgLen, List.length_take] at hl
  unfold pkgLenTotal at ht
  simp only [if_true] at ht
  omega

/-- **C18 converse, `Package` count byte**: an accepted `Package` is `12`, the PkgLength of
    (count byte + elements), the count byte, the elements; and the count byte, read back as a
    number, is the true number of elements (not a wrapped one). -/
theorem pkg_count_field (ints : List Nat) (blobs : List Bytes) (kids : AmlList) (bs : Bytes)
    (h : (Aml.node .pkg ints blobs kids).enc = some bs) :
    ∃ d, catOpt (AmlList.encs kids) = some d ∧
      bs = [0x12] ++ pkgLen (d.length + 1) true ++ [UInt8.ofNat kids.length] ++ d ∧
      (UInt8.ofNat kids.length).toNat = kids.length := by
  -- acceptance of the `Package` row: not refused, all children sequenced, the bytes
  rw [Lemmas.AmlParse.opRow_enc (op := .pkg) rfl] at h
  obtain ⟨hc, _, _, rfl, ⟨d, hd, rfl⟩, _, rfl⟩ := Lemmas.AmlParse.OpRow.enc_some h
  refine ⟨d, hd, ?_, UInt8.toNat_ofNat_of_lt' (by show _ < 256; omega)⟩
  show [0x12] ++ (pkgLen ([[UInt8.ofNat kids.length], d].flatten.length) true ++ [[UInt8.ofNat kids.length], d].flatten) = _
  simp only [List.flatten_cons, List.flatten_nil, List.append_nil, List.length_append, List.length_singleton,
    Nat.add_comm 1, List.append_assoc]

/-- **C18 converse, `PackageBuilder` count byte**: same statement for the builder form. -/
theorem pkgb_count_field (ints : List Nat) (blobs : List Bytes) (kids : AmlList) (bs : Bytes)
    (h : (Aml.node .pkgb ints blobs kids).enc = some bs) :
    ∃ d, catOpt (AmlList.encs kids) = some d ∧
      bs = [0x12] ++ pkgLen (d.length + 1) true ++ [UInt8.ofNat kids.length] ++ d ∧
      (UInt8.ofNat kids.length).toNat = kids.length := by
  exact pkg_count_field ints blobs kids bs (C15.pkgb_eq_pkg ints blobs kids ▸ h)

/-- **C18 converse, `Method` flags byte**: an accepted `Method` is `14`, PkgLength, path, flags
    byte, body; masking the argument count to three bits lost nothing (`args &&& 7 = args`), and
    the low three bits of the flags byte actually written are the argument count. -/
theorem method_flags_argcount (ints : List Nat) (blobs : List Bytes) (kids : AmlList) (bs : Bytes)
    (h : (Aml.node .method ints blobs kids).enc = some bs) :
    ∃ p d flags, pathEnc (blobs.getD 0 []) = some p ∧ catOpt (AmlList.encs kids) = some d ∧
      flags = UInt8.ofNat ((ints.getD 0 0 &&& 7) ||| ((if ints.getD 1 0 ≠ 0 then 1 else 0) <<< 3)) ∧
      bs = [0x14] ++ pkgLen (p.length + 1 + d.length) true ++ p ++ [flags] ++ d ∧
      ints.getD 0 0 &&& 7 = ints.getD 0 0 ∧
      flags.toNat &&& 7 = ints.getD 0 0 := by
  rw [Lemmas.AmlParse.opRow_enc (op := .method) rfl] at h
  obtain ⟨hc, _, _, ⟨p, hp, rfl⟩, ⟨d, hd, rfl⟩, _, rfl⟩ := Lemmas.AmlParse.OpRow.enc_some h
  have h7 : ints.getD 0 0 ≤ 7 := Nat.le_of_not_lt hc
  refine ⟨p, d, _, hp, hd, rfl, ?_, Nat.and_two_pow_sub_one_of_lt_two_pow (n := 3) (Nat.lt_succ_of_le h7),
    (Lemmas.AmlParse.method_flag_bits _ (by omega) _ (by split <;> decide)).2⟩
  show [0x14] ++ (pkgLen ([p, [_], d].flatten.length) true ++ [p, [_], d].flatten) = _
  simp only [List.flatten_cons, List.flatten_nil, List.append_nil, List.length_append, List.length_singleton,
    List.append_assoc, Nat.add_assoc]

/-- a small nested tree exercising most sites: Device(\\_SB_.PCI0) { Name(_CRS, ResourceTemplate
    { QWordMemory, WordBusNumber }), Method(MTHD, 2, Serialized) { Store(Arg1, Local7),
    Return(Package{One, One}) }, Field(…){named, reserved} } -/
def sample : Aml :=
  .node .device [] [[0x5C, 0x5F, 0x53, 0x42, 0x5F, 0x2E, 0x50, 0x43, 0x49, 0x30]]
    (.cons (.node .name [] [[0x5F, 0x43, 0x52, 0x53]]
        (.cons (.node .rt [] []
          (.cons (.node .asmem [64, 1, 1, 0x1000, 0x1FFF, 0, 0] [] .nil)
          (.cons (.node .asbus [16, 0, 255] [] .nil) .nil))) .nil))
    (.cons (.node .method [2, 1] [[0x4D, 0x54, 0x48, 0x44]]
        (.cons (.node .store [] [] (.cons (.node .local_ [7] [] .nil) (.cons (.node .arg [1] [] .nil) .nil)))
        (.cons (.node .ret [] [] (.cons (.node .pkg [] [] (repOnes 2)) .nil)) .nil)))
    (.cons (.node .field [1, 0, 0] [[0x52, 0x45, 0x47, 0x30]]
        (.cons (.node .fnamed [8] [[0x46, 0x4C, 0x44, 0x30]] .nil)
        (.cons (.node .freserved [24] [] .nil) .nil))) .nil)))

/-- `accepted_counts_fit` and `accepted_size_bounded` are not vacuous: the sample is accepted -/
example : ∃ bs, sample.enc = some bs ∧ countsFit sample = true ∧ bs.length < 2 + 2 ^ 28 := by
  cases h : sample.enc with
  | none => exact absurd h (by decide +kernel)
  | some bs => exact ⟨bs, rfl, accepted_counts_fit _ _ h, accepted_size_bounded _ _ _ _ bs 2 rfl h⟩

/-- the predicate is not trivially true: it rejects each kind of oversized count -/
example : countsFit (.node .arg [7] [] .nil) = false ∧ countsFit (.node .local_ [8] [] .nil) = false ∧
    countsFit (.node .method [8, 0] [[0x4D, 0x54, 0x48, 0x44]] .nil) = false ∧
    countsFit (.node .asbus [16, 0, 65535] [] .nil) = false ∧
    countsFit (.node .asio [16, 2, 1] [] .nil) = false ∧
    countsFit (.node .freserved [2 ^ 28] [] .nil) = false ∧
    countsFit (.node .name [] [[0x41, 0x42, 0x43]] (.cons (.node .one [] [] .nil) .nil)) = false ∧
    countsFit (.node .ret [] [] (.cons (.node .arg [7] [] .nil) .nil)) = false := by decide

/-- why `countsFit` follows only the serialised children: a leaf ignores its `kids`, and a
    two-operand operator ignores a third child, so acceptance says nothing about them -/
example : (Aml.node .one [] [] (.cons (.node .arg [9] [] .nil) .nil)).enc = some [0x01] ∧
    (Aml.node .eq [] [] (.cons (.node .one [] [] .nil) (.cons (.node .zero [] [] .nil)
      (.cons (.node .arg [9] [] .nil) .nil)))).enc = some [0x93, 0x01, 0x00] := by decide

/-- a 255-element package is accepted, is `countsFit`, and is 1 + 2 + 1 + 255 bytes long -/
example : ∃ bs, (Aml.node .pkg [] [] (repOnes 255)).enc = some bs ∧
    countsFit (Aml.node .pkg [] [] (repOnes 255)) = true ∧ bs.length = 259 :=
  ⟨_, pkg_repOnes 255 (Nat.le_refl _), accepted_counts_fit _ _ (pkg_repOnes 255 (Nat.le_refl _)), by
    simp only [List.length_append, List.length_replicate, C07.length_pkgLen, List.length_singleton]
    decide⟩

/-- a 256-element package is refused in both forms, and is not `countsFit` -/
example : (Aml.node .pkg [] [] (repOnes 256)).enc = none :=
  package_refused .pkg (Or.inl rfl) [] [] _ (by rw [repOnes_length]; decide)
example : (Aml.node .pkgb [] [] (repOnes 256)).enc = none :=
  package_refused .pkgb (Or.inr rfl) [] [] _ (by rw [repOnes_length]; decide)
example : countsFit (Aml.node .pkg [] [] (repOnes 256)) = false := by
  rw [countsFit_node]
  simp [nodeFits, localFits, repOnes_length]

/-- `pkg_count_field` / `pkgb_count_field` are not vacuous, and the count byte of the 255-element
    package is 255 -/
example : ∃ bs d, (Aml.node .pkg [] [] (repOnes 255)).enc = some bs ∧
    bs = [0x12] ++ pkgLen (d.length + 1) true ++ [UInt8.ofNat (repOnes 255).length] ++ d ∧
    (UInt8.ofNat (repOnes 255).length).toNat = 255 := by
  obtain ⟨d, _, hb, hc⟩ := pkg_count_field [] [] (repOnes 255) _ (pkg_repOnes 255 (Nat.le_refl _))
  exact ⟨_, d, pkg_repOnes 255 (Nat.le_refl _), hb, by rw [hc, repOnes_length]⟩

example : ∃ bs, (Aml.node .pkgb [] [] (repOnes 3)).enc = some bs := by
  cases h : (Aml.node .pkgb [] [] (repOnes 3)).enc with
  | none => exact absurd h (by decide)
  | some bs => exact ⟨bs, rfl⟩

/-- `method_flags_argcount` is not vacuous: a 7-argument serialized method is accepted -/
example : ∃ bs, (Aml.node .method [7, 1] [[0x4D, 0x54, 0x48, 0x44]] (repOnes 1)).enc = some bs := by
  cases h : (Aml.node .method [7, 1] [[0x4D, 0x54, 0x48, 0x44]] (repOnes 1)).enc with
  | none => exact absurd h (by decide)
  | some bs => exact ⟨bs, rfl⟩

end Acpi.C18
