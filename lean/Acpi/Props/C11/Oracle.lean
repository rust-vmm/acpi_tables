/-
  C11 — the own-field / frame oracle the driver evaluates on the implementation
  (Spec.optionOwnViolation, Spec.optionFrameViolation) holds of the model's entries.
-/
import Acpi.Spec.OptionOracle
import Acpi.Lemmas.Inst
namespace Acpi.C11
open Spec

/-- **C11 (oracle on the model)**: build the same structure twice, with a list of option calls and
    without any; if both programs run, then with `ref`/`ref0` the reference encodings (set
    semantics) and `raw`/`base` the model's serialisations, no byte governed by the options
    differs from the reference and no other byte differs from the option-free build. -/
theorem option_oracle (k : Kind) (c : EArgs) (opts : List Opt) (a a0 : EArgs)
    (hk : k ≠ .ged) (hwf : entryWf k c opts = true) (hq : k = .qosctrl → C04.qosCtorWf c)
    (h : buildEntry k c opts = .ok a) (h0 : buildEntry k c [] = .ok a0)
    (total total0 : Nat) (rs rs0 : List Row)
    (hr : Spec.rows k c opts = some (total, rs)) (hr0 : Spec.rows k c [] = some (total0, rs0)) :
    optionOwnViolation (render rs) (render rs0) (entryBytes k a) = none ∧
    optionFrameViolation (render rs) (render rs0) (entryBytes k a) (entryBytes k a0) = none := by
  have hwf0 : entryWf k c [] = true := by
    rw [entryWf, Bool.and_eq_true] at hwf ⊢; exact ⟨hwf.1, rfl⟩
  -- both builds are their reference encodings, so neither conjunct of either oracle can hold
  rw [(conforms.eq_render (Inst.entry_rows hk hwf hq h hr)).2,
    (conforms.eq_render (Inst.entry_rows hk hwf0 hq h0 hr0)).2]
  simp [optionOwnViolation, optionFrameViolation]

end Acpi.C11
