/-
  Helper lemmas for C03.entry_counts (Props/C03/Counts.lean): the array-count check on a
  conforming image (`counts_array`), and one lemma per kind or group of kinds with inner counts.
  The count fields fit because an accepted entry is no larger than `Inst.maxTotal`.
-/
import Acpi.Spec.Counts
import Acpi.Lemmas.SelfDescribing
namespace Acpi.Counts
open Spec

/-! ### an array of `n` elements of `stride` bytes after `base` bytes, counted in a field -/

theorem counts_array {total : Nat} {rs : List Row} {raw : Bytes} (hc : conforms total rs raw = none)
    {base stride off w n : Nat} (ht : total = base + stride * n) (hs : 0 < stride)
    (hv : numAt rs off w = some n) (hn : n < 256 ^ w) :
    ¬ (raw.length < base ∨ (raw.length - base) % stride ≠ 0 ∨
        (readAt raw off w).getD 0 ≠ (raw.length - base) / stride) := by
  rw [conforms.length hc, conforms.at_getD hc hv hn, ht, Nat.add_sub_cancel_left, Nat.mul_mod_right,
    Nat.mul_div_cancel_left _ hs]
  simp

/-- … with a second field (the array offset) holding a constant -/
theorem counts_array_off {total : Nat} {rs : List Row} {raw : Bytes} (hc : conforms total rs raw = none)
    {base stride off w n off' w' v' : Nat} (ht : total = base + stride * n) (hs : 0 < stride)
    (hv : numAt rs off w = some n) (hn : n < 256 ^ w) (hv' : numAt rs off' w' = some v') (hn' : v' < 256 ^ w') :
    ¬ (raw.length < base ∨ (raw.length - base) % stride ≠ 0 ∨
        (readAt raw off w).getD 0 ≠ (raw.length - base) / stride ∨ (readAt raw off' w').getD 0 ≠ v') := by
  have := counts_array hc ht hs hv hn
  rw [conforms.at_getD hc hv' hn']
  simpa using this

/-- PPTT processor node, HMAT memory-side cache, RHCT hart info, CEDT XOR interleave math: the
    elements are the state's list -/
theorem counts_stateList (k : Kind) (hk : k ∈ [Kind.proc, .msc, .hart, .cxims]) (c : EArgs)
    (opts : List Opt) (a : EArgs) (hwf : entryWf k c opts = true) (h : buildEntry k c opts = .ok a) :
    entryCountsOracle k (entryBytes k a) = none := by
  simp only [List.mem_cons, List.not_mem_nil, or_false] at hk
  rcases hk with rfl | rfl | rfl | rfl <;>
  · have hc := Inst.entry_rows (by decide) hwf nofun h rfl
    have := Inst.total_le _ (by decide) hwf h rfl
    simp only [Inst.maxTotal] at this
    unfold entryCountsOracle
    exact if_neg (counts_array hc rfl (by decide) rfl (by omega))

/-- RIMT IOMMU and PCIe root complex -/
theorem counts_rimt (k : Kind) (hk : k ∈ [Kind.iommu, .pcierc]) (c : EArgs) (opts : List Opt) (a : EArgs)
    (hwf : entryWf k c opts = true) (h : buildEntry k c opts = .ok a) :
    entryCountsOracle k (entryBytes k a) = none := by
  simp only [List.mem_cons, List.not_mem_nil, or_false] at hk
  rcases hk with rfl | rfl <;>
  · have hc := Inst.entry_rows (by decide) hwf nofun h rfl
    have := Inst.total_le _ (by decide) hwf h rfl
    simp only [Inst.maxTotal] at this
    unfold entryCountsOracle
    exact if_neg (counts_array_off hc rfl (by decide) rfl (by omega) rfl (by decide))

theorem counts_platform (c : EArgs) (opts : List Opt) (a : EArgs)
    (hwf : entryWf .platform c opts = true) (h : buildEntry .platform c opts = .ok a) :
    entryCountsOracle .platform (entryBytes .platform a) = none := by
  have hc := Inst.entry_rows (k := .platform) (by decide) hwf nofun h rfl
  have hl := conforms.length hc
  have := Inst.total_le .platform (by decide) hwf h rfl
  simp only [Inst.maxTotal] at this
  have hr := conforms.at_getD hc (off := 8) (w := 2) rfl (by omega)
  have hr2 := conforms.at_getD hc (off := 10) (w := 2) rfl (by omega)
  -- the NUL after the name; the default 1 is that of the oracle's `raw.getD _ 1`
  have hz := conforms.byte hc (off := 12 + (c.blob 0).length) (bs := zeros 1) (by simp [res]) 0 (by decide) 1
  rw [getD_zeros 1 0 1 (by decide)] at hz
  unfold entryCountsOracle
  simp only [hr, hr2, hl]
  -- offset and count against the size, then the terminator
  rw [if_neg (by omega), if_neg]
  have e : 13 + (c.blob 0).length - 1 = 12 + (c.blob 0).length + 0 := by omega
  rw [e, hz]; simp

/-- HYPOTHESIS `hways`: the interleave-ways code fits its one-byte field (an enum in the crate,
    an unconstrained number in the model) -/
theorem counts_cfmws (c : EArgs) (opts : List Opt) (a : EArgs)
    (hwf : entryWf .cfmws c opts = true) (h : buildEntry .cfmws c opts = .ok a)
    (hways : c.num 4 < 256) :
    entryCountsOracle .cfmws (entryBytes .cfmws a) = none := by
  have hc := Inst.entry_rows (k := .cfmws) (by decide) hwf nofun h rfl
  have hl := conforms.length hc
  have hw := C04.cfmws_ways hwf h
  have hr := conforms.at_getD hc (off := 24) (w := 1) rfl (by omega)
  unfold entryCountsOracle
  simp only [hr, hl, hw]
  rw [if_neg]; omega

/-- what the size and the count fields of a locality structure read back as, without any size
    bound (with it: `counts_loc`; without it the oracle can fail: `C03.loc_counts_needs_h32`) -/
theorem loc_reads (c : EArgs) (opts : List Opt) (a : EArgs)
    (hwf : entryWf .loc c opts = true) (h : buildEntry .loc c opts = .ok a) :
    (entryBytes .loc a).length = 32 + 4 * c.num 4 + 4 * c.num 5 + 2 * (c.num 4 * c.num 5) ∧
    (readAt (entryBytes .loc a) 12 4).getD 0 = c.num 4 % 256 ^ 4 ∧
    (readAt (entryBytes .loc a) 16 4).getD 0 = c.num 5 % 256 ^ 4 := by
  have hc := Inst.entry_rows (k := .loc) (by decide) hwf nofun h rfl
  refine ⟨conforms.length hc, ?_, ?_⟩ <;> rw [conforms.at hc rfl] <;> rfl

/-- HYPOTHESIS `h32`: the structure is smaller than 4 GiB (as in `Inst.entry_header`) -/
theorem counts_loc (c : EArgs) (opts : List Opt) (a : EArgs)
    (hwf : entryWf .loc c opts = true) (h : buildEntry .loc c opts = .ok a)
    (h32 : (entryBytes .loc a).length < 2 ^ 32) :
    entryCountsOracle .loc (entryBytes .loc a) = none := by
  obtain ⟨hl, hr, hr2⟩ := loc_reads c opts a hwf h
  rw [hl] at h32
  rw [Nat.mod_eq_of_lt (by omega)] at hr hr2
  unfold entryCountsOracle
  simp only [hr, hr2, hl]
  rw [if_neg]; omega

/-- HYPOTHESIS `hnul`: the ISA string has no interior NUL byte (a Rust `&str` may have one; the
    crate does not check) -/
theorem counts_isa (c : EArgs) (opts : List Opt) (a : EArgs)
    (hwf : entryWf .isa c opts = true) (h : buildEntry .isa c opts = .ok a)
    (hnul : ∀ b ∈ c.blob 0, b ≠ 0) :
    entryCountsOracle .isa (entryBytes .isa a) = none := by
  have hc := Inst.entry_rows (k := .isa) (by decide) hwf nofun h rfl
  have hle := Inst.total_le .isa (by decide) hwf h rfl
  simp only [Inst.maxTotal] at hle
  -- the total is 9 or 10 more than the string, whichever is even
  generalize htot : (if (9 + (c.blob 0).length) % 2 = 0 then _ else _) = tot at hc hle
  have ht : (tot = 9 + (c.blob 0).length ∨ tot = 10 + (c.blob 0).length) ∧ tot % 2 = 0 := by
    split at htot <;> omega
  have hl := conforms.length hc
  have hr := conforms.at_getD hc (off := 6) (w := 2) rfl (by omega)
  -- the first padding byte; the default 1 is that of the oracle's `raw.getD _ 1`
  have hz := conforms.byte hc (off := 8 + (c.blob 0).length) (bs := zeros (tot - 8 - (c.blob 0).length))
    (by simp [res]) 0 (by simp [zeros]; omega) 1
  rw [getD_zeros _ 0 1 (by omega)] at hz
  have hb := conforms.raw hc (off := 8) (bs := c.blob 0) (by simp)
  unfold entryCountsOracle
  simp only [hr, hl]
  -- in the oracle's order: string within the node, NUL at its announced end, node length is the
  -- rounded size, no NUL inside the string
  rw [if_neg (by omega)]
  have e : 8 + ((c.blob 0).length + 1) - 1 = 8 + (c.blob 0).length + 0 := by omega
  rw [e, hz, if_neg (by simp), if_neg (by split <;> omega), Nat.add_sub_cancel, hb, if_neg]
  simp only [List.any_eq_true, decide_eq_true_eq, not_exists, not_and]
  exact hnul

/-- the controller's resources tile it from offset 28 and there are as many as the count field
    says (no hypothesis on the resources is needed: the asserts of `ResourceStructure::new` and
    `add_resource` bound the lengths) -/
theorem counts_qosctrl (c : EArgs) (opts : List Opt) (a : EArgs)
    (h : buildEntry .qosctrl c opts = .ok a) :
    entryCountsOracle .qosctrl (entryBytes .qosctrl a) = none := by
  obtain ⟨rfl, hcp, -⟩ := Builder.build_noCalls_init (fun _ _ => rfl) (fun _ => rfl) h
  simp only [ctorPanics, Bool.or_eq_false_iff] at hcp
  obtain ⟨hany, hsum⟩ := hcp
  have hsum' := of_decide_eq_false hsum
  have hres : ∀ i, i < a.s.length → qosResLen (a.s.getD i []) (a.blob i) ≤ 65535 := by
    intro i hi
    rw [List.any_eq_false] at hany
    have := hany _ (List.mem_map.mpr ⟨i, List.mem_range.mpr hi, rfl⟩)
    simpa using this
  have hn := length_le_sum_map (List.range a.s.length)
    (fun i => qosResLen (a.s.getD i []) (a.blob i)) (fun i => by simp only [qosResLen]; omega)
  rw [List.length_range] at hn
  generalize hes : (List.range a.s.length).map (fun i =>
    ((a.s.getD i []).getD 0 0 % 256, encFields (qosResFields (a.s.getD i []) (a.blob i)))) = es
  have hesl : es.length = a.s.length := by rw [← hes, List.length_map, List.length_range]
  generalize hpre : encFields ([b8 (a.num 0), b8 0,
      w16 (28 + ((List.range a.s.length).map fun i => qosResLen (a.s.getD i []) (a.blob i)).sum)] ++
      gasFields (a.num 1) (a.num 2) (a.num 3) (a.num 4) (a.num 5) ++
      [d32 (a.num 6), d32 (a.num 7), w16 (a.num 8)]) = pre
  have hprel : pre.length = 26 := by
    rw [← hpre, length_encFields]
    simp only [gasFields, fieldsLen_append, fieldsLen_cons, Inst.fieldsLen_nil, Fld.width]
  have hraw : entryBytes .qosctrl a = pre ++ (leN 2 a.s.length ++ (es.map (·.2)).flatten) := by
    rw [← hpre, ← hes]
    simp only [entryBytes, fields, encFields_cons, gasFields, Fld.bytes,
      List.append_assoc, List.cons_append, List.nil_append, encFields_flatMap, List.map_map]
    rfl
  have hsd : ∀ e ∈ es, C03.SelfDescribing .t8l16 e.1 e.2 := by
    intro e he
    rw [← hes] at he
    obtain ⟨i, hi, rfl⟩ := List.mem_map.mp he
    exact Inst.sd_qosRes _ _ (hres i (List.mem_range.mp hi))
  have hl : (entryBytes .qosctrl a).length = 28 + (es.map (·.2)).flatten.length := by
    rw [hraw]; simp only [List.length_append, length_leN, hprel]; omega
  have hdrop : (entryBytes .qosctrl a).drop 28 = (es.map (·.2)).flatten := by
    rw [hraw, ← List.append_assoc]
    exact List.drop_left' (by simp only [List.length_append, length_leN, hprel])
  have hwalk := C03.walk_flatten .t8l16 es hsd (entryBytes .qosctrl a).length (by omega)
  have hr : readAt (entryBytes .qosctrl a) 26 2 = some a.s.length := by
    rw [hraw, ← List.append_assoc, readAt_mid_leN pre _ 26 2 a.s.length hprel.symm, Nat.mod_eq_of_lt (by omega)]
  unfold entryCountsOracle
  simp only [hdrop, hwalk, hr, hesl, Option.getD_some, if_true]

end Acpi.Counts
