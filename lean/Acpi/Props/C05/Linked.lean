/-
  C05, second sentence, end to end: "Every reference field later built from a handle appears
  verbatim in the image, so each reference resolves to the start of a node of the expected type."

  `whole_handles` / `whole_handle_resolves` say what the handles returned by the add calls are.
  This file links them to their *use*: in a linked program (Acpi/Tables/Linked.lean) a reference
  position of a later entry holds "the handle returned by call j"; the theorems below say that
  the final image carries exactly that handle in the reference field, and that the independent
  walk of the image finds, at that offset, the start of a node of the kind the position expects.
-/
import Acpi.Tables.Linked
import Acpi.Lemmas.Linked
import Acpi.Props.C05.Resolves
namespace Acpi.C05
open Spec Linked

/-- **linked programs are table programs**: a successful linked run executed the concrete
    program `ops` — which is every symbolic call linked against the *final* handle list (a
    reference only looks at earlier handles, and a handle never changes once returned) —, and
    that concrete program, run by `runTable`, returns the same handles and the same table.
    Moreover one handle was returned per call, and every reference of call `i` names an earlier
    call `j < i`. -/
theorem runLinked_is_runTable (T : TableId) (o : Oem) (ls : List LAddOp) (hs : List Nat) (t : Tbl)
    (ops : List AddOp) (h : runLinked T o ls = some (hs, t, ops)) :
    runTable T o ops = some (hs, t) ∧ ops = ls.map (link hs) ∧ hs.length = ls.length ∧
    ∀ i (hi : i < ls.length), ∀ r ∈ ls[i].refs, r.2 < i := by
  obtain ⟨hops, hsc, hrt⟩ := runLinked_iff.mp h
  obtain ⟨-, bs, hb, hr⟩ := Whole.runTable_eq_some.mp hrt
  refine ⟨hrt, hops, ?_, fun i hi r hr' => by simpa using hsc i hi r hr'⟩
  rw [(Ran.of_run hr).handles, length_offsetsFrom, List.length_map, List.length_map,
    (Whole.buildAll_spec ops bs hb).1, hops, List.length_map]

/-- **… and conversely**: if every reference of call `i` names an earlier call, and the concrete
    program obtained by writing the handles `hs` into the reference positions is a `runTable`
    program that returns exactly these handles, then it is the run of the linked program.  So
    `runLinked` adds nothing to `runTable` but the origin of the numbers in the reference
    positions. -/
theorem runTable_is_runLinked (T : TableId) (o : Oem) (ls : List LAddOp) (hs : List Nat) (t : Tbl)
    (hlt : ∀ i (hi : i < ls.length), ∀ r ∈ ls[i].refs, r.2 < i)
    (h : runTable T o (ls.map (link hs)) = some (hs, t)) :
    runLinked T o ls = some (hs, t, ls.map (link hs)) :=
  runLinked_iff.mpr ⟨rfl, fun i hi r hr => by simpa using hlt i hi r hr, h⟩

/-- **C05 (references resolve), end to end.**  Take a linked program that runs (`runLinked`),
    whose references obey `refsWellTyped` (each names an earlier call of the expected kind, at a
    position that exists — what the Rust handle types enforce —, no position is named twice, and a
    processor node with a parent reference is given no raw field write, option "set": programs
    that overwrite the public `parent` field directly are outside the claim), whose concrete calls
    meet the hypotheses of `whole_handle_resolves` (arguments within their Rust types, no RDPAS),
    and whose image is below 4 GiB.  Then the
    independent walk `tableEntries` of the final image succeeds with one entry per call, and for
    every call `i` and every reference `(pos, j)` of it:

    (a) *the reference field appears verbatim*: reading `pos.width` bytes little-endian at offset
        `hs[i] + fieldOffset pos` of the final image gives `hs[j]`, the handle returned by call `j`
        (for the 2-byte VIOT field this uses that the VIOT refuses nodes beyond offset 65535);
    (b) *it resolves to the start of a node of the expected type*: the walk's `j`-th entry starts
        exactly at `hs[j]` (first-entry offset plus the lengths of the entries the walk stepped
        over), call `j` added a node of a kind the position may name (`targetKinds pos`), and
        that entry carries the specification type code of that kind.

    Covered positions: PPTT processor parent / private resources, PPTT cache next level, VIOT
    translation offset (PCI range and MMIO endpoint), RHCT hart-info offsets (ISA string and CMO
    nodes), RIMT id-mapping destinations (PCIe root complex and platform device). -/
theorem linked_references_resolve (T : TableId) (o : Oem) (ho : C02.OemWf o) (ls : List LAddOp)
    (hs : List Nat) (t : Tbl) (ops : List AddOp)
    (hrun : runLinked T o ls = some (hs, t, ops)) (hty : refsWellTyped ls = true)
    (hwf : ∀ op ∈ ops, op.k ≠ .rdpas ∧ entryWf op.k op.ctor op.opts = true ∧
      (op.k = .qosctrl → C04.qosCtorWf op.ctor))
    (bs : List (Kind × EArgs)) (hb : buildAll ops = some bs)
    (hbnd : ∀ e ∈ bs, (e.1 = .loc → (entryBytes e.1 e.2).length < 2 ^ 32) ∧ (e.1 = .qosctrl → e.2.num 0 < 256))
    (hsz : t.image.length < 2 ^ 32) :
    ∃ sh es, shapeOf T.name = some sh ∧ tableEntries sh t.image = .ok es ∧
      es.length = ls.length ∧ hs.length = ls.length ∧
      ∀ (i : Nat) (hi : i < ls.length) (pos : RefPos) (j : Nat), (pos, j) ∈ ls[i].refs →
        ∃ (hj : j < ls.length) (hje : j < es.length), j < i ∧
          readAt t.image (hs.getD i 0 + fieldOffset pos ls[i].op) pos.width = some (hs.getD j 0) ∧
          hs.getD j 0 = sh.first + ((es.take j).map (·.2.length)).sum ∧
          ls[j].op.k ∈ targetKinds pos ∧
          es[j].1 = typeCodeConst ls[j].op.k := by
  obtain ⟨hrt, hops, hlen, -⟩ := runLinked_is_runTable T o ls hs t ops hrun
  obtain ⟨sh, es, hsh, hwalk, heslen, hres⟩ := whole_handle_resolves T o ho ops hwf bs hb hbnd hs t hrt
  obtain ⟨hbl, hget⟩ := Whole.buildAll_spec ops bs hb
  have hol : ops.length = ls.length := by rw [hops, List.length_map]
  obtain ⟨hacc, hr⟩ := Whole.runAdds_of_runTable hb hrt
  have hcl := Whole.claimed_eq ops (fun op hop => ⟨(hwf op hop).1, (hwf op hop).2.1⟩) bs hb
  refine ⟨sh, es, hsh, hwalk, by omega, hlen, ?_⟩
  intro i hi pos j hmem
  obtain ⟨hnd, hok⟩ := refsWellTyped_spec ls hty i hi
  obtain ⟨hji, ⟨hj, htk⟩, hex, hset⟩ := hok (pos, j) hmem
  simp only at hji hj htk hex hset
  have hio : i < ops.length := by omega
  have hjo : j < ops.length := by omega
  have hjb : j < bs.length := by omega
  have hje : j < es.length := by omega
  have hjh : j < hs.length := by omega
  have hopi : ops[i] = link hs ls[i] := by simp only [hops, List.getElem_map]
  have hopj : ops[j] = link hs ls[j] := by simp only [hops, List.getElem_map]
  refine ⟨hj, hje, hji, ?_, ?_, htk, ?_⟩
  · -- (a) the field appears verbatim: linking wrote `hs[j]` there, the image holds what the call
    -- holds, and `hs[j]` fits the field
    have hval := getRef_link hs ls[i] hnd (fun r hr => (hok r hr).2.2.1) pos j hmem
    have hre := ref_reads_back T o ho ops hwf bs hb hs t hrt i hio pos (hs.getD j 0)
      (hopi ▸ hval) (fun e => hopi ▸ (link_all_names hs ls[i] (fun n => n != "set")).trans (hset e))
    have hfit := handle_fits T o ho _ hcl hs t hr hsz pos
      (fun e => viot_of_viotTrans T ls[i].op (e ▸ hex)
        (link_k hs ls[i] ▸ hopi ▸ hacc ops[i] (List.getElem_mem hio)))
      (hs.getD j 0) (by
        rw [List.getD_eq_getElem?_getD, List.getElem?_eq_getElem hjh]; exact List.getElem_mem hjh)
    rwa [Nat.mod_eq_of_lt hfit, hopi, fieldOffset_link] at hre
  · -- (b) it is where the walk's j-th entry starts
    have := (hres j hje hjb).1
    rw [List.getD_eq_getElem?_getD, this]
    rfl
  · -- … and that entry has the type code of the kind added by call j
    have h2 := (hres j hje hjb).2
    have hk1 := (hget j hjo hjb).1
    rw [h2, hk1, hopj, link_k, Inst.typeCode_of_ne _ _ (targetKinds_ne_qos pos _ htk)]

/-- the four tables whose entries carry references to other entries -/
def hasHandles : TableId → Bool
  | .pptt | .rhct _ | .rimt | .viot => true
  | _ => false

/-- **C05 (references resolve) for PPTT, RHCT, RIMT and VIOT**, with the side conditions that
    cannot occur on these tables discharged (no RDPAS, no HMAT locality structure, no RQSC
    controller; the built entries exist because the run succeeded): a linked program that runs,
    obeys the handle types, has every concrete call within its Rust types, and produces an image
    below 4 GiB, has every reference field carrying verbatim the handle of the call it names, and
    that handle is where the independent walk finds the start of a node of the expected kind. -/
theorem linked_references_resolve_handle_tables (T : TableId) (hT : hasHandles T = true) (o : Oem)
    (ho : C02.OemWf o) (ls : List LAddOp) (hs : List Nat) (t : Tbl) (ops : List AddOp)
    (hrun : runLinked T o ls = some (hs, t, ops)) (hty : refsWellTyped ls = true)
    (hwf : ∀ op ∈ ops, entryWf op.k op.ctor op.opts = true)
    (hsz : t.image.length < 2 ^ 32) :
    ∃ sh es, shapeOf T.name = some sh ∧ tableEntries sh t.image = .ok es ∧
      es.length = ls.length ∧ hs.length = ls.length ∧
      ∀ (i : Nat) (hi : i < ls.length) (pos : RefPos) (j : Nat), (pos, j) ∈ ls[i].refs →
        ∃ (hj : j < ls.length) (hje : j < es.length), j < i ∧
          readAt t.image (hs.getD i 0 + fieldOffset pos ls[i].op) pos.width = some (hs.getD j 0) ∧
          hs.getD j 0 = sh.first + ((es.take j).map (·.2.length)).sum ∧
          ls[j].op.k ∈ targetKinds pos ∧
          es[j].1 = typeCodeConst ls[j].op.k := by
  obtain ⟨hrt, -, -, -⟩ := runLinked_is_runTable T o ls hs t ops hrun
  obtain ⟨⟨hacc, -⟩, bs, hb, -⟩ := Whole.runTable_eq_some.mp hrt
  have hn : T.name ∈ ["pptt", "rhct", "rimt", "viot"] := by
    cases T <;> simp [hasHandles, TableId.name] at hT ⊢
  -- RDPAS, RQSC controllers and HMAT locality structures belong to CEDT, RQSC and HMAT
  have hkind : ∀ op ∈ ops, op.k ≠ .rdpas ∧ op.k ≠ .qosctrl ∧ op.k ≠ .loc := by
    intro op hop
    have ha := hacc op hop
    refine ⟨?_, ?_, ?_⟩
    all_goals
      intro hk
      rw [hk] at ha
      rw [← Option.some.inj ha] at hn
      revert hn
      decide
  obtain ⟨hbl, hget⟩ := Whole.buildAll_spec ops bs hb
  refine linked_references_resolve T o ho ls hs t ops hrun hty ?_ bs hb ?_ hsz
  · intro op hop
    exact ⟨(hkind op hop).1, hwf op hop, fun hk => absurd hk (hkind op hop).2.1⟩
  · intro e he
    obtain ⟨i, hi, rfl⟩ := List.mem_iff_getElem.mp he
    have hio : i < ops.length := by omega
    have hk := (hget i hio hi).1
    have hn := hkind ops[i] (List.getElem_mem hio)
    rw [← hk] at hn
    exact ⟨fun h => absurd h hn.2.2, fun h => absurd h hn.2.1⟩

def exOem : Oem := { id := [65, 66, 67, 68, 69, 70], table := [1, 2, 3, 4, 5, 6, 7, 8], rev := 1 }

/-- a PPTT program: L2 cache; L1 cache whose next level is call #0; a package node with private
    resources #0 and #1; a core node whose parent is call #2 and whose private resource is #1.
    The numbers at the reference positions are placeholders (0). -/
def exPptt : List LAddOp :=
  [ { op := { k := .cache, ctor := {}, opts := [⟨"size", [4096]⟩] } },
    { op := { k := .cache, ctor := {}, opts := [⟨"size", [512]⟩, ⟨"next", [0]⟩] },
      refs := [(.cacheNext, 0)] },
    { op := { k := .proc, ctor := { n := #[0, 7] },
              opts := [⟨"physical", []⟩, ⟨"cache", [0]⟩, ⟨"cache", [0]⟩] },
      refs := [(.procCache 0, 0), (.procCache 1, 1)] },
    { op := { k := .proc, ctor := { n := #[0, 8] }, opts := [⟨"cache", [0]⟩, ⟨"leaf", []⟩] },
      refs := [(.procParent, 2), (.procCache 0, 1)] } ]

/-- the program obeys the handle types -/
example : refsWellTyped exPptt = true := by decide

/-- the run succeeds, returns the handles 36, 64, 92, 120, and the image has 144 bytes -/
theorem exPptt_runs : (runLinked .pptt exOem exPptt).map (fun r => (r.1, r.2.1.image.length)) =
    some ([36, 64, 92, 120], 144) := by decide +kernel

set_option maxRecDepth 4000 in
/-- what linking does, on `exPptt` (non-vacuity of `runLinked_is_runTable`): the concrete program
    executed has the handles 36, 64, 92 written over the placeholders — constructor numbers and
    option values of the four calls shown -/
example : (runLinked .pptt exOem exPptt).map
      (fun r => r.2.2.map fun op => (op.ctor.n, op.opts.map (·.v))) =
    some [(#[], [[4096]]), (#[], [[512], [36]]), (#[0, 7], [[], [36], [64]]),
          (#[92, 8], [[64], []])] := by decide +kernel

/-- non-vacuity of `runTable_is_runLinked`: its hypotheses hold for `exPptt` with the handles
    36, 64, 92, 120 -/
example : ∃ t, (∀ i (hi : i < exPptt.length), ∀ r ∈ exPptt[i].refs, r.2 < i) ∧
    runTable .pptt exOem (exPptt.map (link [36, 64, 92, 120])) = some ([36, 64, 92, 120], t) := by
  obtain ⟨⟨hs, t, ops⟩, hrun, h⟩ := Option.map_eq_some_iff.mp exPptt_runs
  obtain ⟨rfl, -⟩ := Prod.mk.inj h
  obtain ⟨hrt, hops, -, hlt⟩ := runLinked_is_runTable _ _ _ _ _ _ hrun
  exact ⟨t, hlt, hops ▸ hrt⟩

/-- non-vacuity of `linked_references_resolve_handle_tables` (hence of `linked_references_resolve`)
    and its conclusion instantiated on `exPptt`: the final image carries 36 in the L1 cache's
    next-level field (offset 64 + 8), 36 and 64 in the package node's private resources
    (92 + 20, 92 + 24), 92 in the core node's parent field (120 + 8) and 64 in its private
    resource (120 + 20); the independent walk finds four entries; handle 92 is where its entry #2
    starts and that entry has the processor type code 0, handle 64 is where entry #1 starts and it
    has the cache type code 1. -/
example : ∃ hs t ops, runLinked .pptt exOem exPptt = some (hs, t, ops) ∧ hs = [36, 64, 92, 120] ∧
    readAt t.image (64 + 8) 4 = some 36 ∧
    readAt t.image (92 + 20) 4 = some 36 ∧ readAt t.image (92 + 24) 4 = some 64 ∧
    readAt t.image (120 + 8) 4 = some 92 ∧ readAt t.image (120 + 20) 4 = some 64 ∧
    ∃ es, tableEntries { first := 36, kind := .t8l8 } t.image = .ok es ∧ ∃ (h4 : es.length = 4),
      92 = 36 + ((es.take 2).map (·.2.length)).sum ∧ es[2].1 = 0 ∧
      64 = 36 + ((es.take 1).map (·.2.length)).sum ∧ es[1].1 = 1 := by
  obtain ⟨⟨hs, t, ops⟩, hrun, h⟩ := Option.map_eq_some_iff.mp exPptt_runs
  obtain ⟨rfl, hlen⟩ := Prod.mk.inj h
  obtain ⟨-, hops, -, -⟩ := runLinked_is_runTable _ _ _ _ _ _ hrun
  have hwf : ∀ op ∈ ops, entryWf op.k op.ctor op.opts = true := by
    rw [hops]; decide
  obtain ⟨sh, es, hsh, hwalk, hel, -, hall⟩ :=
    linked_references_resolve_handle_tables .pptt rfl exOem ⟨rfl, rfl⟩ exPptt _ t ops hrun
      (by decide) hwf (by simp only at hlen; omega)
  cases Option.some.inj hsh
  obtain ⟨-, -, -, a1, -, -, -⟩ := hall 1 (by decide) .cacheNext 0 (by decide)
  obtain ⟨-, -, -, a2, -, -, -⟩ := hall 2 (by decide) (.procCache 0) 0 (by decide)
  obtain ⟨_, _, _, a3, b3, _, c3⟩ := hall 2 (by decide) (.procCache 1) 1 (by decide)
  obtain ⟨_, _, _, a4, b4, _, c4⟩ := hall 3 (by decide) .procParent 2 (by decide)
  obtain ⟨-, -, -, a5, -, -, -⟩ := hall 3 (by decide) (.procCache 0) 1 (by decide)
  exact ⟨_, t, ops, hrun, rfl, a1, a2, a3, a4, a5, es, hwalk, hel, b4, c4, b3, c3⟩

/-- the typing discipline is not vacuous and not redundant: the same program with the core node's
    private resource naming call #2 (a processor node, where a cache node is expected) still
    runs — the model, like the bytes, cannot tell — but is rejected by `refsWellTyped`, as the Rust
    handle types reject it at compile time -/
example :
    let bad : List LAddOp := exPptt.take 3 ++
      [{ op := { k := .proc, ctor := { n := #[0, 8] }, opts := [⟨"cache", [0]⟩] },
         refs := [(.procCache 0, 2)] }]
    refsWellTyped bad = false ∧ (runLinked .pptt exOem bad).isSome = true := by
  decide +kernel

/-- a forward reference (call #0 naming call #1) is an ill-formed program: no run -/
example : runLinked .pptt exOem
    [{ op := { k := .cache, ctor := {}, opts := [⟨"next", [0]⟩] }, refs := [(.cacheNext, 1)] },
     { op := { k := .cache, ctor := {}, opts := [] } }] = none := by
  decide +kernel

/-- a VIOT program: PCI IOMMU, MMIO IOMMU, a PCI range translated by #0, an MMIO endpoint
    translated by #1 -/
def exViot : List LAddOp :=
  [ { op := { k := .pciiommu, ctor := { n := #[0, 0, 1, 0] }, opts := [] } },
    { op := { k := .mmioiommu, ctor := { n := #[0x10000000] }, opts := [] } },
    { op := { k := .pcirange, ctor := { n := #[0, 0, 0, 0, 0, 255, 31, 7, 0] }, opts := [] },
      refs := [(.viotTrans, 0)] },
    { op := { k := .mmioep, ctor := { n := #[5, 0x20000000, 0] }, opts := [] },
      refs := [(.viotTrans, 1)] } ]

/-- an RHCT program: ISA string node, CMO node, hart info node naming both -/
def exRhct : List LAddOp :=
  [ { op := { k := .isa, ctor := { b := #[[114, 118, 54, 52]] }, opts := [] } },
    { op := { k := .cmo, ctor := { n := #[6, 6, 6] }, opts := [] } },
    { op := { k := .hart, ctor := { n := #[0, 0] }, opts := [⟨"cmo", [0]⟩] },
      refs := [(.hartIsa, 0), (.hartCmo 0, 1)] } ]

/-- a RIMT program: IOMMU, a PCIe root complex with one id mapping to it, a platform device with
    two id mappings to it -/
def exRimt : List LAddOp :=
  [ { op := { k := .iommu, ctor := { n := #[1, 1, 0x10000, 0, 0, 0, 0, 0, 0, 0, 0] }, opts := [] } },
    { op := { k := .pcierc, ctor := { n := #[2, 0, 1, 0, 1], s := [[0, 0, 0xFFFF, 0, 1, 0, 0]] },
              opts := [] },
      refs := [(.idmapDst 0, 0)] },
    { op := { k := .platform,
              ctor := { n := #[3, 1], b := #[[100, 101, 118]],
                        s := [[0, 0, 1, 0, 0, 0, 0], [1, 0, 1, 0, 0, 0, 0]] },
              opts := [] },
      refs := [(.idmapDst 1, 0), (.idmapDst 0, 0)] } ]

set_option maxRecDepth 4000 in
/-- the VIOT, RHCT and RIMT programs obey the handle types and run (handles shown) -/
example :
    refsWellTyped exViot = true ∧ refsWellTyped exRhct = true ∧ refsWellTyped exRimt = true ∧
    (runLinked .viot exOem exViot).map (·.1) = some [48, 64, 80, 104] ∧
    (runLinked (.rhct 10000000) exOem exRhct).map (·.1) = some [56, 70, 80] ∧
    (runLinked .rimt exOem exRimt).map (·.1) = some [48, 80, 116] := by
  decide +kernel

end Acpi.C05
