/-
  C01, whole tables: the checksum statement for complete builder programs of the twelve
  append tables (engine + entry models composed, Acpi.Tables.Whole).
-/
import Acpi.Tables.Whole
import Acpi.Props.C01
import Acpi.Lemmas.Whole
namespace Acpi.C01

/-- **C01 (whole tables)**: for each of the twelve append tables, every constructor argument,
    and every sequence of `add_*` calls with entries built by arbitrary builder programs — no
    well-formedness guard at all — if the program does not panic the emitted image sums to 0.
    (Every prefix of a program is a program, so this is "after construction and after every
    operation".) -/
theorem whole_sum_zero (T : TableId) (o : Oem) (ops : List AddOp) (hs : List Nat) (t : Tbl)
    (h : runTable T o ops = some (hs, t)) : sum8 t.image = 0 := by
  obtain ⟨-, bs, -, hr⟩ := Whole.runTable_eq_some.mp h
  exact tbl_sum_zero T.cfg o _ hs t hr

/-- non-vacuity: an SRAT program with a memory-affinity entry runs -/
example : (runTable .srat ⟨[1,2,3,4,5,6], [1,2,3,4,5,6,7,8], 7⟩
    [⟨.mem, { n := #[1, 0x1000, 0x2000] }, [⟨"hp", []⟩]⟩]).isSome = true := by
  decide +kernel

end Acpi.C01
