/-
  Arrays of last-writer-wins cells written by index: the initiator, target and
  entry lists of the HMAT locality structure (C12).
-/
import Acpi.Lemmas.Builder
namespace Acpi.SHP
open Builder

/-- the right-hand side of `Builder.foldl_last` and `last_snoc`, named -/
def lastD (p : Opt → Bool) (f : Opt → Nat) (os : List Opt) (d : Nat) : Nat :=
  (((os.filter p).getLast?).map f).getD d

theorem lastD_congr (p q : Opt → Bool) (f : Opt → Nat) (os : List Opt) (d : Nat)
    (h : ∀ o ∈ os, p o = q o) : lastD p f os d = lastD q f os d := by
  unfold lastD
  rw [List.filter_congr h]

theorem map_range_set (n k v : Nat) (f : Nat → Nat) :
    ((List.range n).map f).set k v = (List.range n).map (fun i => if k = i then v else f i) := by
  apply List.ext_getElem
  · simp
  · intro i h1 h2
    simp [List.getElem_set]

theorem map_range_const (n d : Nat) : (List.range n).map (fun _ => d) = List.replicate n d := by
  rw [List.map_const', List.length_range]

theorem foldl_set_range (p : Opt → Prop) [DecidablePred p] (idx val : Opt → Nat) (n : Nat)
    (opts : List Opt) (f : Nat → Nat) :
    opts.foldl (fun l o => if p o then l.set (idx o) (val o) else l) ((List.range n).map f) =
      (List.range n).map fun i => lastD (fun o => decide (p o ∧ idx o = i)) val opts (f i) := by
  induction opts generalizing f with
  | nil => rfl
  | cons o os ih =>
    rw [List.foldl_cons]
    by_cases hp : p o
    · rw [if_pos hp, map_range_set, ih]
      simp only [lastD, last_cons, hp, true_and, decide_eq_true_eq]
    · rw [if_neg hp, ih]
      simp only [lastD, last_cons, hp, false_and, decide_false, Bool.false_eq_true, if_false]

theorem foldl_set_replicate (p : Opt → Prop) [DecidablePred p] (idx val : Opt → Nat) (n d : Nat)
    (opts : List Opt) :
    opts.foldl (fun l o => if p o then l.set (idx o) (val o) else l) (List.replicate n d) =
      (List.range n).map fun i => lastD (fun o => decide (p o ∧ idx o = i)) val opts d := by
  rw [← map_range_const, foldl_set_range]

end Acpi.SHP
