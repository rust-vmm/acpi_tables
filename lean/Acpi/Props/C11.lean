/-
  C11 — option builders set exactly their own specification bit, independently.

  The *meaning* of every option call is fixed on the specification side (Acpi.Spec.Layout,
  Acpi.Spec.FixedLayout) in set semantics: a flag field is the sum of the distinct bits of the
  options that occur in the program (any order, any multiplicity), a gating flag is set iff
  its value was supplied (`bit opts "size" 1` next to `lastVal opts "size"` …), and every byte
  outside the fields an option governs is the same row as without it.  The theorems of C04
  say the model — which applies the calls one by one, in program order, with `|=` like the
  Rust — produces exactly that encoding.  This file states the consequences C11 names.
-/
import Acpi.Props.C04
import Acpi.Props.C04.Fixed
import Acpi.Lemmas.Inst
namespace Acpi.C11
open Spec

/-- **C11 (entries)**: for every option-bearing entry structure the emitted bytes are the
    reference encoding in set semantics (union of the bits of exactly the options invoked; value
    fields hold the last value supplied; gating bits set iff the value was supplied; everything
    else as without the option). -/
theorem options_set_semantics (k : Kind) (c : EArgs) (opts : List Opt) (a : EArgs)
    (hk : k ≠ .ged) (hwf : entryWf k c opts = true) (hq : k = .qosctrl → C04.qosCtorWf c)
    (h : buildEntry k c opts = .ok a) : layoutOracle k c opts (entryBytes k a) = none :=
  C04.entry_conforms k c opts a hk hwf hq h

theorem rows_eq_some (k : Kind) (c : EArgs) (opts : List Opt) : ∃ tr, rows k c opts = some tr := by
  cases k <;> exact ⟨_, rfl⟩

/-- two programs with the same reference rows emit the same bytes -/
theorem same_rows_same_bytes (k : Kind) (c : EArgs) (opts opts' : List Opt) (a a' : EArgs)
    (hk : k ≠ .ged) (hq : k = .qosctrl → C04.qosCtorWf c)
    (hwf : entryWf k c opts = true) (hwf' : entryWf k c opts' = true)
    (h : buildEntry k c opts = .ok a) (h' : buildEntry k c opts' = .ok a')
    (hr : rows k c opts = rows k c opts') : entryBytes k a = entryBytes k a' := by
  obtain ⟨⟨total, rs⟩, hrw⟩ := rows_eq_some k c opts
  exact (conforms.eq_render (Inst.entry_rows hk hwf hq h hrw)).2.trans
    (conforms.eq_render (Inst.entry_rows hk hwf' hq h' (hr ▸ hrw))).2.symm

/-- **order and repetition do not matter** (SRAT memory affinity): any two programs invoking
    the same *set* of options emit identical bytes -/
theorem mem_order_irrelevant (c : EArgs) (opts opts' : List Opt) (a a' : EArgs)
    (hs : ∀ nm, has opts nm = has opts' nm)
    (hwf : entryWf .mem c opts = true) (hwf' : entryWf .mem c opts' = true)
    (h : buildEntry .mem c opts = .ok a) (h' : buildEntry .mem c opts' = .ok a') :
    entryBytes .mem a = entryBytes .mem a' :=
  same_rows_same_bytes .mem c opts opts' a a' (by decide) nofun hwf hwf' h h'
    (by simp [rows, bit, hs])

theorem gi_order_irrelevant (c : EArgs) (opts opts' : List Opt) (a a' : EArgs)
    (hs : ∀ nm, has opts nm = has opts' nm)
    (hwf : entryWf .gi c opts = true) (hwf' : entryWf .gi c opts' = true)
    (h : buildEntry .gi c opts = .ok a) (h' : buildEntry .gi c opts' = .ok a') :
    entryBytes .gi a = entryBytes .gi a' :=
  same_rows_same_bytes .gi c opts opts' a a' (by decide) nofun hwf hwf' h h'
    (by simp [rows, bit, hs])

/-- **C11 (FADT flags and profiles, TCPA server flags)**: after any program the image is the
    reference encoding in which the FADT Flags dword is the union of the specification bits of
    the `flag` calls (since the last direct write of the field), `preferred_pm_profile`,
    `dsdt_32/64`, `firmware_ctrl_32/64`, `acpi_enable/disable` are last-call-wins and touch only
    their own fields; the TCPA device/interrupt flag bytes are the union of the bits of the
    builders invoked, each "valid" bit set together with its value. -/
theorem fixed_options (t : FixedT) (o : Oem) (c : EArgs) (ops : List Opt) (s : FixedState)
    (hwf : C04.fixedWf t o c ops) (hrun : runFixed t o c ops = some s) :
    let img := s.image
    let rev := if t = .rsdp ∨ t = .facs then 0 else (img.getD 8 0).toNat
    let cks := if t = .rsdp then (img.getD 8 0).toNat else (img.getD 9 0).toNat
    let (total, rows) := fixedRows t o c ops rev cks (img.getD 32 0).toNat
    conforms total rows img = none :=
  C04.fixed_conforms t o c ops s hwf hrun

/-- the FADT flag numbers map to distinct bits of Table 5.10 (22 is the zero value of the
    two-bit field 23:22, 23 and 24 its other values) and the model's `Flags as u32` agrees -/
theorem fadt_flag_bits : ∀ k : Fin 25, Fadt.flagValue k.val = fadtFlagBits k.val :=
  fun k => C04.flagValue_eq k.val k.isLt

theorem fadt_flag_bits_distinct : ∀ i j : Fin 22, i ≠ j → fadtFlagBits i.val &&& fadtFlagBits j.val = 0 := by
  intro i j h
  -- below 22 the bit of flag `f` is `2 ^ f`, and distinct powers of two share no bit
  rw [fadtFlagBits, fadtFlagBits, if_pos i.isLt, if_pos j.isLt]
  apply Nat.eq_of_testBit_eq
  intro n
  rw [Nat.testBit_and, Nat.testBit_two_pow, Nat.testBit_two_pow, Nat.zero_testBit]
  cases hi : decide (i.val = n) with
  | false => rfl
  | true =>
    rw [Bool.true_and, decide_eq_false_iff_not]
    exact fun hj => h (Fin.ext ((of_decide_eq_true hi).trans hj.symm))

end Acpi.C11
