/-
  A child in SuperName, Target or NameString position: a name is read from its bytes alone
  (`NFact.*`, `SGFact.name`); a SuperName that is a term (Local, Arg, DerefOf, Index) from the
  child's own round trip (`SGFact.of_superName`, `SGFact.of_target`).
-/
import Acpi.Lemmas.AmlFacts
namespace Acpi.Lemmas.AmlParse
open Spec Spec.Aml

theorem nameOf_eq (s : Bytes) : nameOf s = mkName (pathOf s).1 (pathOf s).2 .nil := rfl

theorem NFact.path {s p : Bytes} (hp : pathEnc s = some p) (hok : pathOk s = true) : NFact p (nameOf s) := by
  refine ⟨(pathOf s).1, (pathOf s).2, nameOf_eq s, fun rest => (pathEnc_decode s p rest hp hok).1, ?_⟩
  exact (pathEnc_decode s p [] hp hok).2

theorem NFact.of_pathNode {env : Env} {ints : List Nat} {blobs : List Bytes} {kids : AmlList} {e : Bytes}
    (hw : wf env (.node .path ints blobs kids) = true) (he : (Aml.node .path ints blobs kids).enc = some e) :
    NFact e (meaning (.node .path ints blobs kids)) := by
  simp only [wf, Bool.and_eq_true, decide_eq_true_eq] at hw
  exact NFact.path he hw.2.1

theorem NFact.seg {q : Bytes} (hq : NameString.isSeg q = true) : NFact q (mkName false [q] .nil) := by
  refine ⟨false, [q], rfl, fun rest => ?_, ?_⟩
  · have := C09.decode_enc ⟨false, [q]⟩ rest (by simpa using hq) (by simp) (by simp)
    simpa [Path.enc, namePrefix] using this
  · obtain ⟨a, t, rfl, ha⟩ := C09.lead_of_seg q hq
    exact ⟨a, t, rfl, by simp [isNameLead, ha]⟩

theorem SGFact.name {env : Env} {s : Slot} (hs : s = .S ∨ s = .G) {e : Bytes} {tm : Tm} (h : NFact e tm) :
    SGFact env s e tm := by
  obtain ⟨r, segs, rfl, hd, b, t, rfl, hb⟩ := h
  intro f ss rest is ks r' _ hss
  exact parseSlots_SG_name env f s hs ss b (t ++ rest) rest r segs is ks r' hb (hd rest) hss

theorem SGFact.term {env : Env} {s : Slot} (hs : s = .S ∨ s = .G) {e : Bytes} {tm : Tm} (h : TFact env e tm)
    (hb : ∃ b t, e = b :: t ∧ ((0x60 ≤ b ∧ b ≤ 0x6E) ∨ b = 0x83 ∨ b = 0x88 ∨ b = 0x71)) :
    SGFact env s e tm := by
  obtain ⟨b, t, rfl, hb⟩ := hb
  intro f ss rest is ks r' hf hss
  exact parseSlots_SG_term env f s hs ss b (t ++ rest) rest tm is ks r' hb (h f rest hf) hss

theorem SGFact.null {env : Env} : SGFact env .G [0x00] (.node .nullName [] [] .nil) := by
  intro f ss rest is ks r' _ hss
  simp only [List.singleton_append, parseSlots, and_self, if_true, hss, Option.map_some]

/-- the denotation of a child in Target position -/
def tgt (a : Aml) : Tm :=
  match intValue? a with
  | some 0 => .node .nullName [] [] .nil
  | _ => meaning a

theorem targets_cons (a : Aml) (r : AmlList) : targets (.cons a r) = tgt a :: targets r := by
  simp only [targets, tgt]; rfl

/-- a SuperName is a term, and no integer: in Target position it denotes itself -/
theorem okSuperName_spec (a : Aml) (h : okSuperName a = true) : okTerm a = true ∧ tgt a = meaning a := by
  unfold okSuperName at h
  split at h <;> first | exact ⟨rfl, rfl⟩ | exact absurd h (by simp)

theorem SGFact.of_superName {env : Env} {a : Aml} {e : Bytes} {s : Slot} (hs : s = .S ∨ s = .G) (i : RT env a)
    (hw : wf env a = true) (hk : okSuperName a = true) (he : a.enc = some e) :
    SGFact env s e (meaning a) := by
  have ht := i.tfact hw (okSuperName_spec a hk).1 he
  unfold okSuperName at hk
  split at hk
  · -- local
    rename_i ints blobs kids
    refine SGFact.term hs ht ?_
    obtain ⟨h7, rfl⟩ := local_enc_some he
    have := ofNat_range 0x60 (ints.getD 0 0) 0x67 (by omega) (by omega)
    exact ⟨_, _, rfl, Or.inl ⟨this.1, UInt8.le_trans this.2 (by decide)⟩⟩
  · -- arg
    rename_i ints blobs kids
    refine SGFact.term hs ht ?_
    obtain ⟨h7, rfl⟩ := arg_enc_some he
    have := ofNat_range 0x68 (ints.getD 0 0) 0x6E (by omega) (by omega)
    exact ⟨_, _, rfl, Or.inl ⟨UInt8.le_trans (by decide) this.1, this.2⟩⟩
  · -- path
    exact SGFact.name hs (NFact.of_pathNode hw he)
  · -- deref
    rename_i ints blobs kids
    refine SGFact.term hs ht ?_
    simp only [Aml.enc, Option.map_eq_some_iff] at he
    obtain ⟨x, _, rfl⟩ := he
    exact ⟨0x83, _, rfl, by decide⟩
  · -- index
    rename_i ints blobs kids
    refine SGFact.term hs ht ?_
    simp only [Aml.enc, Option.bind_eq_bind, Option.bind_eq_some_iff, Option.some.injEq] at he
    obtain ⟨_, _, _, _, _, _, rfl⟩ := he
    exact ⟨0x88, _, rfl, by decide⟩
  · exact absurd hk (by simp)

theorem enc_of_int_zero (a : Aml) (e : Bytes) (h : intValue? a = some 0) (he : a.enc = some e) : e = [0x00] := by
  -- the arms of `intValue?`: Zero; One (value 1); the five sized integers, whose encoder at 0 is
  -- evaluated; anything else is no integer
  unfold intValue? at h
  split at h
  · simp only [Aml.enc, Option.some.injEq] at he; exact he.symm
  · simp at h
  all_goals first
    | (injection h with h
       simp only [Aml.enc, h, Option.some.injEq] at he
       subst he; decide)
    | simp at h

theorem SGFact.of_target {env : Env} {a : Aml} {e : Bytes} (i : RT env a)
    (hw : wf env a = true) (hk : okTarget a = true) (he : a.enc = some e) :
    SGFact env .G e (tgt a) := by
  unfold okTarget at hk
  simp only [Bool.or_eq_true, beq_iff_eq] at hk
  rcases hk with hk | hk
  · rw [(okSuperName_spec a hk).2]
    exact SGFact.of_superName (Or.inr rfl) i hw hk he
  · have : tgt a = .node .nullName [] [] .nil := by unfold tgt; rw [hk]; rfl
    rw [this, enc_of_int_zero a e hk he]
    exact SGFact.null

theorem NFact.of_nameString {env : Env} {a : Aml} {e : Bytes}
    (hw : wf env a = true) (hk : okNameString a = true) (he : a.enc = some e) :
    NFact e (meaning a) := by
  unfold okNameString at hk
  split at hk
  · exact NFact.of_pathNode hw he
  · cases he
    exact NFact.seg hk
  · exact absurd hk (by simp)

end Acpi.Lemmas.AmlParse
