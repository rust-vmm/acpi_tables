/-
  Compositional "facts" about how emitted bytes parse (`TFact`, `NFact`, `SGFact`, `SlotsFact`,
  `BodyFact`), from which the round trip of a row and of the other constructors is assembled.
-/
import Acpi.Lemmas.AmlLeaf
namespace Acpi.Lemmas.AmlParse
open Spec Spec.Aml

def RT (env : Env) (t : Aml) : Prop :=
  ∀ (bs rest : Bytes) (fuel : Nat), wf env t = true → okTerm t = true → t.enc = some bs →
    8 * bs.length + 16 ≤ fuel → parseTerm env fuel (bs ++ rest) = some (meaning t, rest)

def RTs (env : Env) : AmlList → Prop
  | .nil => True
  | .cons a r => RT env a ∧ RTs env r

/-- the induction step of C06 for constructor `op`: a node round-trips if its children do -/
def RTStep (env : Env) (op : Op) : Prop :=
  ∀ (ints : List Nat) (blobs : List Bytes) (kids : AmlList), RTs env kids →
    RT env (.node op ints blobs kids)

/-- `e` parses as the term `tm` in TermArg position, with enough fuel.  `8 * len + 16` is the fuel
    of `parsesTo`: fuel bounds the depth of the parser's recursion, and each opcode byte pays eight —
    for its own step, its operand slots (`+ ss.length` in `SlotsFact`; the grammar has at most four,
    `TFact.plain` allows six) and the step to the first element of a body list (the `17` of
    `BodyFact`; the step to each further element is paid by the bytes of the one before it). -/
def TFact (env : Env) (e : Bytes) (tm : Tm) : Prop :=
  ∀ (f : Nat) (rest : Bytes), 8 * e.length + 16 ≤ f → parseTerm env f (e ++ rest) = some (tm, rest)

/-- `e` parses as `tm` in a SuperName / Target slot -/
def SGFact (env : Env) (s : Slot) (e : Bytes) (tm : Tm) : Prop :=
  ∀ (f : Nat) (ss : List Slot) (rest : Bytes) (is : List Nat) (ks : TmList) (r : Bytes),
    8 * e.length + 16 ≤ f → parseSlots env f ss rest = some (is, ks, r) →
    parseSlots env (f + 1) (s :: ss) (e ++ rest) = some (is, .cons tm ks, r)

/-- `e` is a NameString denoting `tm` -/
def NFact (e : Bytes) (tm : Tm) : Prop :=
  ∃ (r : Bool) (segs : List Bytes), tm = mkName r segs .nil ∧
    (∀ rest, NameString.decode (e ++ rest) = some (r, segs, rest)) ∧
    ∃ b t, e = b :: t ∧ isNameLead b = true

/-- `e` fills the operand slots `ss` exactly -/
def SlotsFact (env : Env) (ss : List Slot) (e : Bytes) (is : List Nat) (ks : TmList) : Prop :=
  ∀ (f : Nat) (rest : Bytes), 8 * e.length + 16 + ss.length ≤ f →
    parseSlots env f ss (e ++ rest) = some (is, ks, rest)

theorem TFact.nonempty {env : Env} {e : Bytes} {tm : Tm} (h : TFact env e tm) : 1 ≤ e.length := by
  cases e with
  | nil =>
    have := h 16 [] (by simp)
    simp [parseTerm] at this
  | cons b t => simp

theorem TFact.finish {env : Env} {e bs rest : Bytes} {tm : Tm} {fuel : Nat} (h : TFact env e tm)
    (hbs : bs = e) (hf : 8 * bs.length + 16 ≤ fuel) : parseTerm env fuel (bs ++ rest) = some (tm, rest) := by
  subst hbs; exact h fuel rest hf

theorem RT.tfact {env : Env} {a : Aml} {e : Bytes} (i : RT env a) (hw : wf env a = true)
    (hk : okTerm a = true) (he : a.enc = some e) : TFact env e (meaning a) :=
  fun f rest hf => i e rest f hw hk he hf

namespace SlotsFact
variable {env : Env}

theorem nil : SlotsFact env [] [] [] .nil := fun f rest _ => by cases f <;> simp only [List.nil_append, parseSlots]

theorem T {ss : List Slot} {ea e : Bytes} {ta : Tm} {is : List Nat} {ks : TmList}
    (ha : TFact env ea ta) (h : SlotsFact env ss e is ks) :
    SlotsFact env (.T :: ss) (ea ++ e) is (.cons ta ks) := by
  intro f rest hf
  simp only [List.length_append, List.length_cons] at hf
  obtain ⟨f, rfl⟩ := Nat.exists_eq_add_one_of_ne_zero (by omega : f ≠ 0)
  simp only [List.append_assoc, parseSlots, ha f _ (by omega), h f rest (by omega), Option.map_some]

theorem N {ss : List Slot} {ea e : Bytes} {ta : Tm} {is : List Nat} {ks : TmList}
    (ha : NFact ea ta) (h : SlotsFact env ss e is ks) :
    SlotsFact env (.N :: ss) (ea ++ e) is (.cons ta ks) := by
  intro f rest hf
  simp only [List.length_append, List.length_cons] at hf
  obtain ⟨f, rfl⟩ := Nat.exists_eq_add_one_of_ne_zero (by omega : f ≠ 0)
  obtain ⟨r, segs, rfl, hd, _⟩ := ha
  simp only [List.append_assoc, parseSlots, hd, h f rest (by omega), Option.map_some]

theorem B {ss : List Slot} {e : Bytes} (b : UInt8) {is : List Nat} {ks : TmList}
    (h : SlotsFact env ss e is ks) :
    SlotsFact env (.B :: ss) (b :: e) (b.toNat :: is) ks := by
  intro f rest hf
  simp only [List.length_cons] at hf
  obtain ⟨f, rfl⟩ := Nat.exists_eq_add_one_of_ne_zero (by omega : f ≠ 0)
  simp only [List.cons_append, parseSlots, h f rest (by omega), Option.map_some]

theorem W {ss : List Slot} {e : Bytes} (w : Bytes) (hw : w.length = 2) {is : List Nat} {ks : TmList}
    (h : SlotsFact env ss e is ks) :
    SlotsFact env (.W :: ss) (w ++ e) (fromLE w :: is) ks := by
  intro f rest hf
  simp only [List.length_append, List.length_cons] at hf
  obtain ⟨f, rfl⟩ := Nat.exists_eq_add_one_of_ne_zero (by omega : f ≠ 0)
  have hl : ¬ (w ++ (e ++ rest)).length < 2 := by simp only [List.length_append]; omega
  simp only [List.append_assoc, parseSlots, if_neg hl, List.drop_left' hw, List.take_left' hw,
    h f rest (by omega), Option.map_some]

theorem SG {s : Slot} {ss : List Slot} {ea e : Bytes} {ta : Tm} {is : List Nat} {ks : TmList}
    (ha : SGFact env s ea ta) (h : SlotsFact env ss e is ks) :
    SlotsFact env (s :: ss) (ea ++ e) is (.cons ta ks) := by
  intro f rest hf
  simp only [List.length_append, List.length_cons] at hf
  obtain ⟨f, rfl⟩ := Nat.exists_eq_add_one_of_ne_zero (by omega : f ≠ 0)
  rw [List.append_assoc]
  exact ha f ss _ is ks rest (by omega) (h f rest (by omega))

end SlotsFact

theorem TFact.plain {env : Env} {opc : Bytes} {code : Nat} {ss : List Slot} {e : Bytes}
    {is : List Nat} {ks : TmList}
    (hop : OpCode opc code) (hsh : shape code = some ⟨ss, none⟩) (hl : ss.length ≤ 6)
    (hS : SlotsFact env ss e is ks) :
    TFact env (opc ++ e) (.node (.op code) is [] ks) := by
  intro f rest hf
  have := hop.len
  simp only [List.length_append] at hf
  obtain ⟨f, rfl⟩ := Nat.exists_eq_add_one_of_ne_zero (by omega : f ≠ 0)
  rw [List.append_assoc, parseTerm_opc env f opc code _ hop]
  simp only [parseOp, hsh, hS f rest (by omega), Option.map_some]

/-- `d` parses as a body of kind `body`, yielding the blobs `bl` and the children `ts` -/
def BodyFact (env : Env) (body : Body) (d : Bytes) (bl : List Bytes) (ts : TmList) : Prop :=
  ∀ f, 8 * d.length + 17 ≤ f → parseBody env f body d = some (bl, ts)

namespace BodyFact
variable {env : Env} {d : Bytes} {ts : TmList}

theorem terms (h : ∀ f, 8 * d.length + 17 ≤ f → parseTermList env f d = some ts) : BodyFact env .terms d [] ts :=
  fun f hf => by rw [parseBody, h f hf]; rfl

theorem elems (h : ∀ f, 8 * d.length + 17 ≤ f → parseElems env f d = some ts) : BodyFact env .elems d [] ts :=
  fun f hf => by rw [parseBody, h f hf]; rfl

theorem fields (h : parseFields d.length d = some ts) : BodyFact env .fields d [] ts :=
  fun _ _ => by rw [parseBody, h]; rfl

theorem bytes : BodyFact env .bytes d [d] .nil := fun _ _ => rfl

end BodyFact

theorem TFact.framed {env : Env} {opc : Bytes} {code : Nat} {ss : List Slot} {body : Body} {e d inner : Bytes}
    {is : List Nat} {ks ts : TmList} {bl : List Bytes}
    (hop : OpCode opc code) (hsh : shape code = some ⟨ss, some body⟩) (hl : ss.length ≤ 6)
    (hS : SlotsFact env ss e is ks) (hB : BodyFact env body d bl ts)
    (hbody : inner = e ++ d) (hpl : ¬ pkgLenPanics inner.length true = true) :
    TFact env (opc ++ (pkgLen inner.length true ++ inner)) (.node (.op code) is bl (ks.append ts)) := by
  subst hbody
  intro f rest hf
  have := hop.len
  simp only [List.length_append] at hf
  obtain ⟨f, rfl⟩ := Nat.exists_eq_add_one_of_ne_zero (by omega : f ≠ 0)
  rw [List.append_assoc, parseTerm_opc env f opc code _ hop]
  exact parseOp_framed env f code _ rest ss body is ks ts bl d hsh hpl (hS f d (by omega)) (hB f (by omega))

end Acpi.Lemmas.AmlParse
