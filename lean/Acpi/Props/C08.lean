/-
  C08 — integer constants round-trip and use the narrowest AML encoding.
-/
import Acpi.Aml.Int
import Acpi.Spec.Int
import Acpi.Lemmas.Basic
namespace Acpi.C08
open Spec.Int

theorem enc_byte {n : Nat} (h : 2 ≤ n) (h' : n < 2 ^ 8) : enc n = 0x0A :: leN 1 n := by
  unfold enc
  rw [if_neg, if_neg, if_pos h'] <;> omega

theorem enc_word {n : Nat} (h : 2 ^ 8 ≤ n) (h' : n < 2 ^ 16) : enc n = 0x0B :: leN 2 n := by
  unfold enc
  rw [if_neg, if_neg, if_neg, if_pos h'] <;> omega

theorem enc_dword {n : Nat} (h : 2 ^ 16 ≤ n) (h' : n < 2 ^ 32) : enc n = 0x0C :: leN 4 n := by
  unfold enc
  rw [if_neg, if_neg, if_neg, if_neg, if_pos h'] <;> omega

theorem enc_qword {n : Nat} (h : 2 ^ 32 ≤ n) : enc n = 0x0E :: leN 8 n := by
  unfold enc
  rw [if_neg, if_neg, if_neg, if_neg, if_neg] <;> omega

theorem encU8_spec (v : UInt8) : encU8 v = enc v.toNat := by
  have hv := v.toNat_lt
  unfold encU8
  split
  · next h => subst h; rfl
  · next h0 =>
    split
    · next h => subst h; rfl
    · next h1 =>
      have e0 : v.toNat ≠ 0 := fun e => h0 (UInt8.toNat_inj.mp e)
      have e1 : v.toNat ≠ 1 := fun e => h1 (UInt8.toNat_inj.mp e)
      rw [enc_byte (by omega) hv, leN_one_toNat]

theorem encU16_spec (v : UInt16) : encU16 v = enc v.toNat := by
  unfold encU16
  split
  · next h =>
    have : v.toNat ≤ 255 := UInt16.le_iff_toNat_le.mp h
    rw [encU8_spec, UInt16.toNat_toUInt8, Nat.mod_eq_of_lt (by omega)]
  · next h =>
    have : ¬ v.toNat ≤ 255 := fun h' => h (UInt16.le_iff_toNat_le.mpr h')
    rw [u16le_eq_leN, enc_word (by omega) v.toNat_lt]

theorem encU32_spec (v : UInt32) : encU32 v = enc v.toNat := by
  unfold encU32
  split
  · next h =>
    have : v.toNat ≤ 65535 := UInt32.le_iff_toNat_le.mp h
    rw [encU16_spec, UInt32.toNat_toUInt16, Nat.mod_eq_of_lt (by omega)]
  · next h =>
    have : ¬ v.toNat ≤ 65535 := fun h' => h (UInt32.le_iff_toNat_le.mpr h')
    rw [u32le_eq_leN, enc_dword (by omega) v.toNat_lt]

theorem encU64_spec (v : UInt64) : encU64 v = enc v.toNat := by
  unfold encU64
  split
  · next h =>
    have : v.toNat ≤ 4294967295 := UInt64.le_iff_toNat_le.mp h
    rw [encU32_spec, UInt64.toNat_toUInt32, Nat.mod_eq_of_lt (by omega)]
  · next h =>
    have : ¬ v.toNat ≤ 4294967295 := fun h' => h (UInt64.le_iff_toNat_le.mpr h')
    rw [u64le_eq_leN, enc_qword (by omega)]

/-- `usize` sizes below 2^64 are encoded as the specification's narrowest integer -/
theorem encUsize_spec (n : Nat) (h : n < 2 ^ 64) : encUsize (UInt64.ofNat n) = enc n := by
  rw [encUsize, encU64_spec, UInt64.toNat_ofNat', Nat.mod_eq_of_lt h]

/-- **C08(a)**: every entry point emits the specification's narrowest encoding of the
    numeric value — hence the same value gives identical bytes whichever type carried it. -/
theorem all_entry_points (n : Nat) :
    (∀ v : UInt8, v.toNat = n → encU8 v = enc n) ∧
    (∀ v : UInt16, v.toNat = n → encU16 v = enc n) ∧
    (∀ v : UInt32, v.toNat = n → encU32 v = enc n) ∧
    (∀ v : UInt64, v.toNat = n → encU64 v = enc n) ∧
    (∀ v : UInt64, v.toNat = n → encUsize v = enc n) :=
  ⟨fun v h => h ▸ encU8_spec v, fun v h => h ▸ encU16_spec v, fun v h => h ▸ encU32_spec v,
   fun v h => h ▸ encU64_spec v, fun v h => h ▸ encU64_spec v⟩

theorem decode_prefixed {p : UInt8} {w n : Nat} (rest : Bytes) (hp : prefixWidth p = some w)
    (hn : n < 256 ^ w) : decode (p :: leN w n ++ rest) = some (n, rest) := by
  have h0 : p ≠ 0x00 := fun e => by subst e; simp [prefixWidth] at hp
  have h1 : p ≠ 0x01 := fun e => by subst e; simp [prefixWidth] at hp
  rw [List.cons_append, decode, if_neg h0, if_neg h1, hp]
  simp only [List.length_append, length_leN]
  rw [if_neg (by omega), List.take_left' (length_leN ..), List.drop_left' (length_leN ..),
    fromLE_leN_of_lt hn]

/-- **C08(b)** round trip: the specification's decoder recovers the value and leaves the
    rest of the stream untouched. -/
theorem decode_enc (n : Nat) (rest : Bytes) (h : n < 2 ^ 64) :
    decode (enc n ++ rest) = some (n, rest) := by
  by_cases h0 : n = 0
  · subst h0; rfl
  by_cases h1 : n = 1
  · subst h1; rfl
  by_cases h8 : n < 2 ^ 8
  · rw [enc_byte (by omega) h8]; exact decode_prefixed rest rfl h8
  by_cases h16 : n < 2 ^ 16
  · rw [enc_word (by omega) h16]; exact decode_prefixed rest rfl h16
  by_cases h32 : n < 2 ^ 32
  · rw [enc_dword (by omega) h32]; exact decode_prefixed rest rfl h32
  · rw [enc_qword (by omega)]; exact decode_prefixed rest rfl h

/-- **C08(c)** narrowest: the encoding has the length of the smallest form that holds `n`. -/
theorem enc_narrowest (n : Nat) : isNarrowest n (enc n) :=
  ⟨fun h => h ▸ rfl, fun h => h ▸ rfl, fun a b => by rw [enc_byte a b]; rfl, fun a b => by rw [enc_word a b]; rfl,
    fun a b => by rw [enc_dword a b]; rfl, fun a => by rw [enc_qword a]; rfl⟩

example : encU64 0x1234 = [0x0B, 0x34, 0x12] := by decide
example : decode (encU32 70000 ++ [9]) = some (70000, [9]) := by decide

end Acpi.C08
