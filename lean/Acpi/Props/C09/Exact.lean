/-
  C09 (exact acceptance / length) — `Path::new` accepts exactly the names whose dot-separated
  pieces (after an optional leading `\`) are all 4 bytes long, and the emitted NameString has
  the length the specification's grammar gives it.

  Complements `Acpi/Props/C09.lean` (`new_none_iff`, `new_some`, `enc_form`, `decode_enc`).
-/
import Acpi.Aml.Path
import Acpi.Props.C09
namespace Acpi.C09

/-- `name[root as usize ..]`, spelled without the model's helper names -/
theorem body_eq (s : Bytes) :
    Path.body s = (if s.head? = some 0x5C then s.tail else s) := by
  unfold Path.body Path.isRooted
  by_cases h : s.head? = some 0x5C
  · rw [if_pos h, if_pos (by rw [h]; rfl), List.drop_one]
  · rw [if_neg h, if_neg (by simpa using h)]

/-- **C09(a), positive form, self-contained**: `Path::new s` returns a path exactly when, after
    dropping one leading `\` (0x5C) if present, every piece between dots (0x2E) is exactly
    4 bytes long. -/
theorem new_isSome_iff (s : Bytes) :
    (Path.new s).isSome ↔
      ∀ q ∈ splitDot (if s.head? = some 0x5C then s.tail else s), q.length = 4 := by
  rw [← body_eq]; exact new_isSome_iff_body s

/-- non-vacuity: `\_SB_.PCI0` is accepted, `_SB_.PCI` is not, the empty name is not -/
example : (Path.new [0x5C, 0x5F, 0x53, 0x42, 0x5F, 0x2E, 0x50, 0x43, 0x49, 0x30]).isSome := by decide
example : ¬ (Path.new [0x5F, 0x53, 0x42, 0x5F, 0x2E, 0x50, 0x43, 0x49]).isSome := by decide
example : ¬ (Path.new []).isSome := by decide
/-- via the theorem: a lone `\` is refused (its body has the single piece `[]`) -/
example : ¬ (Path.new [0x5C]).isSome := by
  intro h
  have := (new_isSome_iff [0x5C]).mp h [] (by decide)
  exact absurd this (by decide)

theorem namePrefix_length (n : Nat) :
    (namePrefix n).length = (if n ≤ 1 then 0 else if n = 2 then 1 else 2) := by
  unfold namePrefix
  rcases n with _ | _ | _ | n <;> simp

theorem flatten_length_of_all4 : ∀ (parts : List Bytes), (∀ q ∈ parts, q.length = 4) →
    parts.flatten.length = 4 * parts.length
  | [], _ => rfl
  | q :: qs, h => by
    rw [List.flatten_cons, List.length_append, List.length_cons,
      flatten_length_of_all4 qs (fun x hx => h x (List.mem_cons_of_mem _ hx)),
      h q (List.mem_cons_self ..)]
    omega

/-- **C09 length (general)**: with all segments 4 bytes, whatever their number, the emitted
    bytes are: 1 for the root character if rooted; 0 / 1 / 2 for no prefix (0 or 1 segment),
    DualNamePrefix, or MultiNamePrefix + count; and 4 per segment. -/
theorem enc_length_general (p : Path) (hl : ∀ q ∈ p.parts, q.length = 4) :
    p.enc.length = (if p.root then 1 else 0) +
      (if p.parts.length ≤ 1 then 0 else if p.parts.length = 2 then 1 else 2) +
      4 * p.parts.length := by
  unfold Path.enc
  rw [List.length_append, List.length_append, namePrefix_length,
    flatten_length_of_all4 p.parts hl]
  cases p.root <;> simp

/-- **C09 length**: when `to_aml_bytes` does not panic (1..255 segments) and every segment is
    4 bytes (as `Path::new` guarantees), the emitted NameString is
    `[root char] + [nothing | DualNamePrefix | MultiNamePrefix count] + 4 bytes per segment`
    long.  (The zero-segment case, where the model's `namePrefix 0 = []` would give 0 rather
    than 2, is excluded by `encPanics = false`; it cannot come out of `Path.new` either, see
    `new_some`.) -/
theorem enc_length (p : Path) (h : p.encPanics = false) (hl : ∀ q ∈ p.parts, q.length = 4) :
    p.enc.length = (if p.root then 1 else 0) +
      (if p.parts.length = 1 then 0 else if p.parts.length = 2 then 1 else 2) +
      4 * p.parts.length := by
  have h0 : p.parts.length ≠ 0 := by
    intro e
    unfold Path.encPanics at h
    rw [e] at h
    revert h; decide
  rw [enc_length_general p hl]
  have e : (if p.parts.length ≤ 1 then 0 else if p.parts.length = 2 then 1 else 2) =
      (if p.parts.length = 1 then 0 else if p.parts.length = 2 then 1 else 2) := by
    by_cases h1 : p.parts.length = 1
    · rw [if_pos (Nat.le_of_eq h1), if_pos h1]
    · rw [if_neg (by omega), if_neg h1]
  rw [e]

/-- **C09 length from a name**: for a path built by `Path::new` with at most 255 segments, the
    emitted length is determined by rootedness and segment count alone. -/
theorem new_enc_length (s : Bytes) (p : Path) (hn : Path.new s = some p) (h255 : p.parts.length ≤ 255) :
    p.enc.length = (if p.root then 1 else 0) +
      (if p.parts.length = 1 then 0 else if p.parts.length = 2 then 1 else 2) +
      4 * p.parts.length := by
  obtain ⟨_, _, hall, h1⟩ := new_some s p hn
  apply enc_length p _ hall
  unfold Path.encPanics
  simp only [Bool.or_eq_false_iff, decide_eq_false_iff_not]
  exact ⟨by omega, by omega⟩

/-- non-vacuity (`\_SB_.PCI0`: 1 + 1 + 8 = 10 bytes; `_SB_`: 4; three segments: 2 + 12) -/
example : (⟨true, [[0x5F, 0x53, 0x42, 0x5F], [0x50, 0x43, 0x49, 0x30]]⟩ : Path).encPanics = false ∧
    (⟨true, [[0x5F, 0x53, 0x42, 0x5F], [0x50, 0x43, 0x49, 0x30]]⟩ : Path).enc.length = 10 := by decide
example : (⟨false, [[0x5F, 0x53, 0x42, 0x5F]]⟩ : Path).enc.length = 4 := by decide
example : (⟨false, [[0x5F, 0x53, 0x42, 0x5F], [0x50, 0x43, 0x49, 0x30], [0x41, 0x42, 0x43, 0x44]]⟩ : Path).enc.length
    = 14 := by decide
/-- the zero-segment corner: the statement of `enc_length` without its first hypothesis is
    false (the model emits 0 bytes where the formula says 2), which is why `encPanics = false`
    (or `enc_length_general`'s `≤ 1`) is needed. -/
example : (⟨false, []⟩ : Path).enc.length = 0 ∧ (⟨false, []⟩ : Path).encPanics = true := by decide

end Acpi.C09
