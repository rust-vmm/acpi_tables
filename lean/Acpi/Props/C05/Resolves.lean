/-
  C05, second sentence: every handle resolves, in the independent walk of the final image, to the
  start of a node of the kind that was added.
-/
import Acpi.Props.C05.Whole
import Acpi.Props.C03.Whole
namespace Acpi.C05
open Spec

/-- **C05 (handles resolve)**: under the hypotheses of `C03.whole_walk`, the specification walk
    of the final image finds as many entries as handles were returned, and the i-th handle is
    exactly the offset at which the walk's i-th entry starts (first-entry offset plus the lengths
    the walk stepped over), and that entry carries the specification type code of the kind added
    by the i-th call — "each reference resolves to the start of a node of the expected type". -/
theorem whole_handle_resolves (T : TableId) (o : Oem) (ho : C02.OemWf o) (ops : List AddOp)
    (hwf : ∀ op ∈ ops, op.k ≠ .rdpas ∧ entryWf op.k op.ctor op.opts = true ∧
      (op.k = .qosctrl → C04.qosCtorWf op.ctor))
    (bs : List (Kind × EArgs)) (hb : buildAll ops = some bs)
    (hbnd : ∀ e ∈ bs, (e.1 = .loc → (entryBytes e.1 e.2).length < 2 ^ 32) ∧ (e.1 = .qosctrl → e.2.num 0 < 256))
    (hs : List Nat) (t : Tbl) (h : runTable T o ops = some (hs, t)) :
    ∃ sh es, shapeOf T.name = some sh ∧ tableEntries sh t.image = .ok es ∧ es.length = hs.length ∧
      ∀ i (hi : i < es.length) (hi' : i < bs.length),
        hs[i]? = some (sh.first + ((es.take i).map (·.2.length)).sum) ∧
        es[i].1 = typeCode bs[i].1 bs[i].2 := by
  obtain ⟨sh, hsh, hwalk⟩ := C03.whole_walk T o ho ops hwf bs hb hbnd hs t h
  obtain ⟨sh', hsh', hm⟩ := C03.shape T
  have : sh' = sh := by rw [hsh] at hsh'; exact (Option.some.inj hsh').symm
  subst this
  obtain ⟨-, hr⟩ := Whole.runAdds_of_runTable hb h
  have hcl := Whole.claimed_eq ops (fun op hop => ⟨(hwf op hop).1, (hwf op hop).2.1⟩) bs hb
  obtain ⟨hlen, hval⟩ := handle_value T.cfg o _ hcl hs t hr
  refine ⟨sh', _, hsh, hwalk, by rw [hlen]; simp, ?_⟩
  intro i hi hi'
  have hi2 : i < (bs.map rawOf).length := by simpa using hi'
  refine ⟨?_, by simp⟩
  rw [hval i hi2, hm.2.1]
  congr 2
  simp [List.map_take, rawOf, Function.comp_def]

end Acpi.C05
