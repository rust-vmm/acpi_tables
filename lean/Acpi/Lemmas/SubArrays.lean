/-
  What is particular to the RIMT nodes: arrays of sub-structures (interrupt wires, ID mappings)
  laid one after the other, and their small flag fields.
-/
import Acpi.Lemmas.Builder
namespace Acpi.C04
open Spec

theorem or2_eq_add (p q : Prop) [Decidable p] [Decidable q] :
    ((if p then 1 else 0) ||| (if q then 2 else 0) : Nat) = (if p then 1 else 0) + (if q then 2 else 0) := by
  split <;> split <;> rfl

theorem or3_eq_add (p q r : Prop) [Decidable p] [Decidable q] [Decidable r] :
    ((if p then 1 else 0) ||| (if q then 2 else 0) ||| (if r then 4 else 0) : Nat) =
      (if p then 1 else 0) + (if q then 2 else 0) + (if r then 4 else 0) := by
  split <;> split <;> split <;> rfl

/-! The constructor either takes the array or leaves it out; either way it is the array
`if p then l else []` that is serialised. -/

theorem ite_length {α : Type} (p : Prop) [Decidable p] (l : List α) :
    (if p then l.length else 0) = (if p then l else []).length := by split <;> rfl

theorem ite_flatMap {α β : Type} (p : Prop) [Decidable p] (l : List α) (f : α → List β) :
    (if p then l.flatMap f else []) = (if p then l else []).flatMap f := by split <;> rfl

/-- sub-structures `g o t` laid one after the other from `base`, the one for `t` taking `size t` bytes -/
def subRows {α : Type} (g : Nat → α → List Row) (size : α → Nat) : Nat → List α → List Row
  | _, [] => []
  | base, t :: ts => g base t ++ subRows g size (base + size t) ts

theorem lays_subRows {α : Type} (g : Nat → α → List Row) (size : α → Nat) (f : α → List Fld)
    (ws : List α) (hg : ∀ o, ∀ t ∈ ws, Lays o (o + size t) (g o t) (encFields (f t))) (base : Nat) :
    Lays base (base + (ws.map size).sum) (subRows g size base ws) (encFields (ws.flatMap f)) := by
  induction ws generalizing base with
  | nil => exact ⟨by simp [subRows, tilesFrom], rfl⟩
  | cons t ts ih =>
    rw [subRows, List.map_cons, List.sum_cons, ← Nat.add_assoc, List.flatMap_cons, encFields_append]
    exact (hg base t List.mem_cons_self).append (ih (fun o u hu => hg o u (List.mem_cons_of_mem _ hu)) _)

/-- with a constant size, the rows are those listed by index -/
theorem range_flatMap_eq_subRows (g : Nat → List Nat → List Row) (stride : Nat) (ws : List (List Nat))
    (base : Nat) :
    ((List.range ws.length).flatMap fun i => g (base + stride * i) (ws.getD i [])) =
      subRows g (fun _ => stride) base ws := by
  induction ws generalizing base with
  | nil => rfl
  | cons t ts ih =>
    rw [List.length_cons, List.range_succ_eq_map, List.flatMap_cons, List.flatMap_map, subRows, ← ih]
    congr 1
    congr 1
    funext i
    simp only [List.getD_cons_succ]
    congr 1
    rw [Nat.mul_succ]; omega

theorem sum_map_const {α : Type} (ws : List α) (n : Nat) : (ws.map fun _ => n).sum = n * ws.length := by
  rw [List.map_const', List.sum_replicate_nat, Nat.mul_comm]

/-- sub-structures of one size, listed by index -/
theorem lays_strideRows (g : Nat → List Nat → List Row) (stride : Nat) (f : List Nat → List Fld)
    (hg : ∀ o t, Lays o (o + stride) (g o t) (encFields (f t))) (ws : List (List Nat)) (base : Nat) :
    Lays base (base + stride * ws.length)
      ((List.range ws.length).flatMap fun i => g (base + stride * i) (ws.getD i []))
      (encFields (ws.flatMap f)) := by
  rw [range_flatMap_eq_subRows, ← sum_map_const]
  exact lays_subRows g _ f ws (fun o t _ => hg o t) base

end Acpi.C04
