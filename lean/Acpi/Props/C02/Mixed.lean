/-
  C02, mixed programs: Length field = image size for whole-table programs whose add calls mix
  modelled entries with opaque ones (Acpi.Tables.Mixed).
-/
import Acpi.Tables.Mixed
import Acpi.Props.C02
import Acpi.Lemmas.Mixed
namespace Acpi.C02

/-- **C02 (mixed programs)**: for every table, every mixed program whose MODELLED entries stay
    within their Rust types (`entryWf`) and are not CEDT RDPAS records (recorded finding) — the
    hypotheses of `whole_length_field`, nothing being asked of the opaque entries' bytes — if the
    program does not panic then the 32-bit Length at offset 4 is the size of the emitted image
    (below 4 GiB). -/
theorem mixed_length_field (T : TableId) (o : Oem) (ho : OemWf o) (ops : List MOp)
    (hwf : ∀ op, MOp.modelled op ∈ ops → op.k ≠ .rdpas ∧ entryWf op.k op.ctor op.opts = true)
    (hs : List Nat) (t : Tbl) (h : runMixed T o ops = some (hs, t))
    (hlt : t.image.length < 2 ^ 32) :
    readAt t.image 4 4 = some t.image.length := by
  obtain ⟨-, es, hb, hr⟩ := Mixed.runMixed_some h
  exact tbl_length_field T.cfg o (Whole.cfgWf T o ho) es (Mixed.claimed_eq ops hwf es hb) hs t hr hlt

/-- the image of a mixed program is the table head followed by every call's bytes in call order,
    and the entry count is the number of calls (opaque ones included) -/
theorem mixed_image_body (T : TableId) (o : Oem) (ops : List MOp)
    (es : List (Bytes × Nat)) (hb : buildMixed ops = some es)
    (hs : List Nat) (t : Tbl) (h : runMixed T o ops = some (hs, t)) :
    t.image = t.head ++ (es.map Prod.fst).flatten ∧ t.count = ops.length := by
  obtain ⟨-, es', hb', hr⟩ := Mixed.runMixed_some h
  cases hb.symm.trans hb'
  obtain ⟨h1, h2⟩ := tbl_image_body T.cfg o es hs t hr
  exact ⟨h1, h2.trans (Mixed.buildMixed_spec ops es hb).1⟩

/-- non-vacuity: the MADT program GICC, 12 opaque bytes, GICD satisfies the hypotheses … -/
example : OemWf Mixed.exOem ∧
    (∀ op, MOp.modelled op ∈ Mixed.exProg → op.k ≠ .rdpas ∧ entryWf op.k op.ctor op.opts = true) := by
  refine ⟨⟨rfl, rfl⟩, fun op hop => ?_⟩
  simp only [Mixed.exProg, List.mem_cons, MOp.modelled.injEq, reduceCtorEq, List.not_mem_nil,
    or_false, false_or] at hop
  rcases hop with rfl | rfl <;> exact ⟨by decide, by decide +kernel⟩

/-- … runs, and its image has 44 + 82 + 12 + 24 bytes -/
example : (runMixed (.madt 0) Mixed.exOem Mixed.exProg).map (fun r => r.2.image.length) = some 162 := by
  decide +kernel

end Acpi.C02
