/-
  C01, mixed programs: the checksum statement for whole-table programs whose add calls mix
  modelled entries with opaque ones (Acpi.Tables.Mixed).
-/
import Acpi.Tables.Mixed
import Acpi.Props.C01
import Acpi.Lemmas.Mixed
namespace Acpi.C01

/-- **C01 (mixed programs)**: for each of the twelve append tables, every constructor argument
    and every sequence of add calls — modelled entries built by arbitrary builder programs and
    opaque entries with arbitrary bytes, in any interleaving, with no hypothesis on either — if
    the program does not panic the emitted image sums to 0.  (Every prefix of a mixed program is
    a mixed program, so this is "after construction and after every operation".) -/
theorem mixed_sum_zero (T : TableId) (o : Oem) (ops : List MOp) (hs : List Nat) (t : Tbl)
    (h : runMixed T o ops = some (hs, t)) : sum8 t.image = 0 := by
  obtain ⟨-, es, -, hr⟩ := Mixed.runMixed_some h
  exact tbl_sum_zero T.cfg o es hs t hr

/-- non-vacuity: the MADT program GICC, 12 opaque bytes, GICD runs -/
example : (runMixed (.madt 0) Mixed.exOem Mixed.exProg).isSome = true := by
  decide +kernel

end Acpi.C01
