/-
  What acceptance by the model's AML encoder means, stated once: for its combinators (`catOpt`,
  `pkgObj`, `pathEnc`, the PkgLength refusal) and for the constructors that are no rows of the
  grammar table and are inverted in more than one place (templates, invocations, args, locals, field
  entries).
-/
import Acpi.Aml.Term
import Acpi.Props.C07
import Acpi.Props.C08
namespace Acpi

theorem AmlList.length_toList : ∀ (kids : AmlList), kids.toList.length = kids.length
  | .nil => rfl
  | .cons a r => by simp [AmlList.toList, AmlList.length, AmlList.length_toList r]

theorem catOpt_cons_some {a : Option Bytes} {xs : List (Option Bytes)} {ds : Bytes}
    (h : catOpt (a :: xs) = some ds) : ∃ d ds', a = some d ∧ catOpt xs = some ds' ∧ ds = d ++ ds' := by
  cases a with
  | none => simp [catOpt] at h
  | some d =>
    simp only [catOpt, Option.map_eq_some_iff] at h
    obtain ⟨ds', h1, h2⟩ := h
    exact ⟨d, ds', rfl, h1, h2.symm⟩

/-- induction over a child list whose encodings were sequenced: every child was accepted, and the
    bytes are the children's bytes in order -/
theorem catOpt_encs_induction
    {motive : (kids : AmlList) → (d : Bytes) → catOpt (AmlList.encs kids) = some d → Prop}
    (nil : motive .nil [] rfl)
    (cons : ∀ a r ea dr (he : a.enc = some ea) (hdr : catOpt (AmlList.encs r) = some dr), motive r dr hdr →
      motive (.cons a r) (ea ++ dr) (by rw [AmlList.encs, he, catOpt, hdr]; rfl)) :
    ∀ kids d h, motive kids d h
  | .nil, _, h => by cases h; exact nil
  | .cons a r, _, h => by
    obtain ⟨ea, dr, he, hdr, rfl⟩ := catOpt_cons_some h
    exact cons a r ea dr he hdr (catOpt_encs_induction nil cons r dr hdr)

theorem pkgObj_some {opc body bs : Bytes} (h : pkgObj opc body = some bs) :
    ¬ pkgLenPanics body.length true = true ∧ bs = opc ++ (pkgLen body.length true ++ body) := by
  unfold pkgObj at h
  split at h
  · cases h
  · rename_i hp
    exact ⟨hp, by rw [← Option.some.inj h, List.append_assoc]⟩

theorem pathEnc_some {s p : Bytes} (h : pathEnc s = some p) :
    ∃ q, Path.new s = some q ∧ q.encPanics = false ∧ p = q.enc := by
  unfold pathEnc at h
  obtain ⟨q, hq, h⟩ := Option.bind_eq_some_iff.mp h
  split at h
  · cases h
  · exact ⟨q, hq, Bool.eq_false_iff.mpr ‹_›, (Option.some.inj h).symm⟩

/-- an accepted buffer object whose declared size is the length of its data, `BufferOp PkgLength
    BufferSize data`: the data are below 2^28 bytes, since the PkgLength was accepted, so BufferSize
    is the specification's narrowest integer; the PkgLength decodes to the rest of the object -/
theorem buffer_some {data bs : Bytes}
    (h : pkgObj [0x11] (encUsize (UInt64.ofNat data.length) ++ data) = some bs) :
    data.length < 2 ^ 28 ∧ ¬ pkgLenPanics (Spec.Int.enc data.length ++ data).length true = true ∧
    bs = [0x11] ++ (pkgLen (Spec.Int.enc data.length ++ data).length true ++ (Spec.Int.enc data.length ++ data)) ∧
    Spec.PkgLength.decode (bs.drop 1) =
      some (bs.length - 1, (pkgLen (Spec.Int.enc data.length ++ data).length true).length) := by
  obtain ⟨hp, rfl⟩ := pkgObj_some h
  have hlt : data.length < 2 ^ 28 := by
    have := pkgLen_content_lt_of_not_panics hp
    rw [List.length_append] at this; omega
  rw [C08.encUsize_spec _ (by omega)] at hp ⊢
  refine ⟨hlt, hp, rfl, ?_⟩
  have := C07.decode_object _ (Spec.Int.enc data.length ++ data) [] rfl (pkgLenTotal_lt_of_not_panics hp)
  rwa [List.append_nil] at this

/-- a resource template is the buffer (`BufferData`) of its children's bytes and the end tag -/
theorem rt_enc_some {ints : List Nat} {blobs : List Bytes} {kids : AmlList} {bs : Bytes}
    (h : (Aml.node .rt ints blobs kids).enc = some bs) :
    ∃ d, catOpt (AmlList.encs kids) = some d ∧
      pkgObj [0x11] (encUsize (UInt64.ofNat (d ++ [0x79, 0x00]).length) ++ (d ++ [0x79, 0x00])) = some bs := by
  simp only [Aml.enc, Option.bind_eq_some_iff] at h
  obtain ⟨d, hd, h⟩ := h
  refine ⟨d, hd, ?_⟩
  -- `enc` adds the two lengths the other way round
  have hlen : (encUsize (UInt64.ofNat (d ++ [0x79, 0x00]).length) ++ (d ++ [0x79, 0x00])).length =
      (d ++ [0x79, 0x00]).length + (encUsize (UInt64.ofNat (d ++ [0x79, 0x00]).length)).length := by
    rw [List.length_append, Nat.add_comm]
  unfold pkgObj
  rw [hlen]
  simpa only [List.append_assoc] using h

theorem call_enc_some {ints : List Nat} {blobs : List Bytes} {kids : AmlList} {bs : Bytes}
    (h : (Aml.node .call ints blobs kids).enc = some bs) :
    ∃ p d, pathEnc (blobs.getD 0 []) = some p ∧ catOpt (AmlList.encs kids) = some d ∧ bs = p ++ d := by
  simp only [Aml.enc, Option.bind_eq_bind, Option.bind_eq_some_iff, Option.some.injEq] at h
  obtain ⟨p, hp, d, hd, rfl⟩ := h
  exact ⟨p, d, hp, hd, rfl⟩

theorem arg_enc_some {ints : List Nat} {blobs : List Bytes} {kids : AmlList} {bs : Bytes}
    (h : (Aml.node .arg ints blobs kids).enc = some bs) :
    ints.getD 0 0 ≤ 6 ∧ bs = [UInt8.ofNat (0x68 + ints.getD 0 0)] :=
  -- the arm of `Aml.enc` is `if n ≤ … then some [byte] else none`
  (Option.ite_none_right_eq_some.mp h).imp_right fun e => (Option.some.inj e).symm

theorem local_enc_some {ints : List Nat} {blobs : List Bytes} {kids : AmlList} {bs : Bytes}
    (h : (Aml.node .local_ ints blobs kids).enc = some bs) :
    ints.getD 0 0 ≤ 7 ∧ bs = [UInt8.ofNat (0x60 + ints.getD 0 0)] :=
  -- the arm of `Aml.enc` is `if n ≤ … then some [byte] else none`
  (Option.ite_none_right_eq_some.mp h).imp_right fun e => (Option.some.inj e).symm

theorem fentry_enc_some {named : Bool} {ints : List Nat} {blobs : List Bytes} {kids : AmlList} {bs : Bytes}
    (h : (Aml.node (if named then .fnamed else .freserved) ints blobs kids).enc = some bs) :
    ¬ pkgLenPanics (ints.getD 0 0) false = true ∧
      bs = (if named then blobs.getD 0 [] else [0x00]) ++ pkgLen (ints.getD 0 0) false := by
  cases named <;>
  · simp only [Bool.false_eq_true, ↓reduceIte] at h ⊢
    unfold Aml.enc at h
    simp only [] at h    -- reduces the `let`s and the `match` on the constructor
    split at h
    · cases h
    · exact ⟨‹_›, (Option.some.inj h).symm⟩

end Acpi
