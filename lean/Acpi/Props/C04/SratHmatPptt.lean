/-
  C04 (with C11 option semantics and C12 HMAT matrix) for the SRAT, HMAT and PPTT entry kinds:
  mem, gi, rintcAff, msc, proc, cache, loc (mpd has no builder calls and nothing to show beyond
  its rows: it is treated in `entry_conforms` itself, like the other such kinds).
-/
import Acpi.Lemmas.Builder
import Acpi.Lemmas.CellArrays
import Acpi.Lemmas.ProcFlags
namespace Acpi.C04
open Spec Builder SHP

/-! ### mem (SRAT memory affinity): flag options en, hp, nv -/

theorem mem_step (s : EArgs) (o : Opt) (s' : EArgs) (hs : s.n.size = 4) (_ : optWf .mem o = true)
    (h : applyOpt .mem s o = some s') :
    s'.n.size = 4 ∧ (∀ j, 3 ≠ j → s'.num j = s.num j) ∧
      s'.num 3 = s.num 3 ||| callBits (C11.flagBits .mem) o := by
  have hn := name_mem h
  obtain ⟨nm, v⟩ := o
  simp only [optNames, List.mem_cons, List.mem_nil_iff, or_false] at hn
  rcases hn with rfl | rfl | rfl <;>
    (obtain rfl := Option.some.inj h
     simp +contextual [num_orNum, hs, callBits, C11.flagBits])

theorem mem_slots {opts : List Opt} {s a : EArgs} (hs : s.n.size = 4) (hw : ∀ o ∈ opts, optWf .mem o = true)
    (h : applyOpts .mem s opts = .ok a) :
    (∀ j, 3 ≠ j → a.num j = s.num j) ∧ a.num 3 = s.num 3 ||| C11.flagSum opts (C11.flagBits .mem) :=
  ⟨fun j hj => slot_keep hs hw h mem_step (·.num j) (·.1 j hj),
   slot_flags hs hw h mem_step _ (C11.disjoint_flagBits .mem) (·.2)⟩

theorem leN8_split (v : Nat) : leN 8 v = leN 4 (v % 2 ^ 32) ++ leN 4 (v / 2 ^ 32 % 2 ^ 32) := by
  rw [show (2 : Nat) ^ 32 = 256 ^ 4 from rfl, leN_mod, leN_mod]
  exact leN_add 4 4 v

theorem conforms_mem (c : EArgs) (opts : List Opt) (a : EArgs)
    (hwf : entryWf .mem c opts = true) (h : buildEntry .mem c opts = .ok a) :
    layoutOracle .mem c opts (entryBytes .mem a) = none := by
  obtain ⟨-, hw, -, ha, -⟩ := build_unpack hwf h
  obtain ⟨hk, h3⟩ := mem_slots rfl hw ha
  unfold layoutOracle rows
  apply conforms_of_eq
  · simp [tilesFrom, Row.off, Row.width, res]
  · simp [layout, hk, h3, C11.flagSum, C11.flagBits, leN8_split, Nat.add_assoc]

/-! ### gi (SRAT generic initiator affinity): flag options en, arch -/

theorem gi_step (s : EArgs) (o : Opt) (s' : EArgs) (hs : s.n.size = 7) (_ : optWf .gi o = true)
    (h : applyOpt .gi s o = some s') :
    s'.n.size = 7 ∧ s'.b = s.b ∧ (∀ j, 6 ≠ j → s'.num j = s.num j) ∧
      s'.num 6 = s.num 6 ||| callBits (C11.flagBits .gi) o := by
  have hn := name_mem h
  obtain ⟨nm, v⟩ := o
  simp only [optNames, List.mem_cons, List.mem_nil_iff, or_false] at hn
  rcases hn with rfl | rfl <;>
    (obtain rfl := Option.some.inj h
     simp +contextual [num_orNum, hs, callBits, C11.flagBits])

theorem gi_slots {opts : List Opt} {s a : EArgs} (hs : s.n.size = 7) (hw : ∀ o ∈ opts, optWf .gi o = true)
    (h : applyOpts .gi s opts = .ok a) :
    a.b = s.b ∧ (∀ j, 6 ≠ j → a.num j = s.num j) ∧
      a.num 6 = s.num 6 ||| C11.flagSum opts (C11.flagBits .gi) :=
  ⟨slot_keep hs hw h gi_step (·.b) (·.1), fun j hj => slot_keep hs hw h gi_step (·.num j) (·.2.1 j hj),
   slot_flags hs hw h gi_step _ (C11.disjoint_flagBits .gi) (·.2.2)⟩

theorem conforms_gi (c : EArgs) (opts : List Opt) (a : EArgs)
    (hwf : entryWf .gi c opts = true) (h : buildEntry .gi c opts = .ok a) :
    layoutOracle .gi c opts (entryBytes .gi a) = none := by
  obtain ⟨hc, hw, hp, ha, -⟩ := build_unpack hwf h
  obtain ⟨hb, hk, h6⟩ := gi_slots rfl hw ha
  have hb0 : a.blob 0 = c.blob 0 := by rw [EArgs.blob, hb]; rfl
  have hb1 : a.blob 1 = c.blob 1 := by rw [EArgs.blob, hb]; rfl
  simp only [ctorWf, ctorPanics] at hc hp
  unfold layoutOracle rows
  by_cases h1 : c.num 1 = 1
  · -- a PCI handle: `(device << 3) | function`, under the constructor's asserts, is `device * 8 + function`
    simp only [h1, if_true] at hc hp ⊢
    simp only [decide_true, Bool.true_and, Bool.or_eq_false_iff, decide_eq_false_iff_not, Nat.not_le] at hp
    have hdf : (c.num 4 <<< 3 ||| c.num 5) = c.num 4 * 8 + c.num 5 := shiftLeft_or _ _ 3 hp.2
    apply conforms_of_eq
    · simp [tilesFrom, Row.off, Row.width, res]
    · simp [layout, hk, h6, h1, hdf, C11.flagSum, C11.flagBits, leN_mod 1]
  · simp only [h1, if_false] at hc ⊢
    simp only [Bool.and_eq_true, decide_eq_true_eq] at hc
    apply conforms_of_eq
    · simp [tilesFrom, Row.off, Row.width, res, hc.1, hc.2]
    · simp [layout, hk, h6, h1, hb0, hb1, C11.flagSum, C11.flagBits]

/-! ### rintcAff (SRAT RINTC affinity): flag option en, valued option pd -/

theorem rintcAff_step (s : EArgs) (o : Opt) (s' : EArgs) (hs : s.n.size = 3) (_ : optWf .rintcAff o = true)
    (h : applyOpt .rintcAff s o = some s') :
    s'.n.size = 3 ∧ s'.b = s.b ∧ s'.num 0 = s.num 0 ∧
      s'.num 1 = s.num 1 ||| callBits (C11.flagBits .rintcAff) o ∧
      s'.num 2 = if o.name = "pd" then o.arg 0 else s.num 2 := by
  have hn := name_mem h
  obtain ⟨nm, v⟩ := o
  simp only [optNames, List.mem_cons, List.mem_nil_iff, or_false] at hn
  rcases hn with rfl | rfl <;>
    (obtain rfl := Option.some.inj h
     simp [num_orNum, num_setNum, hs, callBits, C11.flagBits])

theorem rintcAff_slots {opts : List Opt} {s a : EArgs} (hs : s.n.size = 3)
    (hw : ∀ o ∈ opts, optWf .rintcAff o = true) (h : applyOpts .rintcAff s opts = .ok a) :
    a.b = s.b ∧ a.num 0 = s.num 0 ∧ a.num 1 = s.num 1 ||| C11.flagSum opts (C11.flagBits .rintcAff) ∧
      a.num 2 = lastVal opts "pd" 0 (s.num 2) :=
  ⟨slot_keep hs hw h rintcAff_step (·.b) (·.1), slot_keep hs hw h rintcAff_step (·.num 0) (·.2.1),
   slot_flags hs hw h rintcAff_step _ (C11.disjoint_flagBits .rintcAff) (·.2.2.1),
   slot_lastVal hs hw h rintcAff_step "pd" 0 (·.2.2.2)⟩

theorem conforms_rintcAff (c : EArgs) (opts : List Opt) (a : EArgs)
    (hwf : entryWf .rintcAff c opts = true) (h : buildEntry .rintcAff c opts = .ok a) :
    layoutOracle .rintcAff c opts (entryBytes .rintcAff a) = none := by
  obtain ⟨hc, hw, -, ha, -⟩ := build_unpack hwf h
  obtain ⟨hb, h0, h1, h2⟩ := rintcAff_slots rfl hw ha
  have hb0 : a.blob 0 = c.blob 0 := by rw [EArgs.blob, hb]; rfl
  simp only [ctorWf, decide_eq_true_eq] at hc
  unfold layoutOracle rows
  apply conforms_of_eq
  · simp [tilesFrom, Row.off, Row.width, res, hc]
  · simp [layout, h0, h1, h2, hb0, C11.flagSum, C11.flagBits]

/-! ### msc (HMAT memory side cache): pushes h -/

theorem msc_slots {opts : List Opt} {s a : EArgs} (h : applyOpts .msc s opts = .ok a) :
    a.n = s.n ∧ a.b = s.b ∧ a.s.getD 0 [] = s.s.getD 0 [] ++ pushed opts "h" :=
  pushOnly_slots rfl (fun _ _ => rfl) h

/-- the cache-attributes dword: disjoint bit fields add up -/
theorem msc_attr (t l a w s : Nat) (ht : t < 4) (hl : l < 4) (ha : a < 3) (hw : w < 3) (hs : s < 65536) :
    (t ||| (l <<< 4) ||| (a <<< 8) ||| (w <<< 12) ||| (s <<< 16)) % 2 ^ 32 =
      t + l * 16 + a * 256 + w * 4096 + s * 65536 := by
  rw [or_eq_add_of_lt_of_dvd 4 (by omega) (two_pow_dvd_shiftLeft l 4),
    or_eq_add_of_lt_of_dvd 8 _ (two_pow_dvd_shiftLeft a 8), or_eq_add_of_lt_of_dvd 12 _ (two_pow_dvd_shiftLeft w 12),
    or_eq_add_of_lt_of_dvd 16 _ (two_pow_dvd_shiftLeft s 16)]
  all_goals simp only [Nat.shiftLeft_eq]
  all_goals omega

theorem conforms_msc (c : EArgs) (opts : List Opt) (a : EArgs)
    (hwf : entryWf .msc c opts = true) (h : buildEntry .msc c opts = .ok a) :
    layoutOracle .msc c opts (entryBytes .msc a) = none := by
  obtain ⟨hc, -, -, ha, -⟩ := build_unpack hwf h
  obtain ⟨hn, -, hs⟩ := msc_slots ha
  have hs' : a.s.getD 0 [] = pushed opts "h" := hs
  have hnum : ∀ j, a.num j = (init .msc c).num j := fun j => by rw [EArgs.num, hn]; rfl
  simp only [ctorWf, Bool.and_eq_true, decide_eq_true_eq] at hc
  obtain ⟨⟨⟨⟨h2, h3⟩, h4⟩, h5⟩, h6⟩ := hc
  have h0' : (init .msc c).num 0 = c.num 0 := rfl
  have h1' : (init .msc c).num 1 = c.num 1 := rfl
  have hattr : (init .msc c).num 2 =
      c.num 2 + c.num 3 * 16 + c.num 4 * 256 + c.num 5 * 4096 + c.num 6 * 65536 :=
    msc_attr _ _ _ _ _ h2 h3 h4 h5 h6
  unfold layoutOracle rows
  simp only [entryBytes, fields, hs', hnum, h0', h1', hattr]
  exact conforms_head_array 32 2 _ _ _ (by simp [tilesFrom, Row.off, Row.width, res]) (by simp [layout])

/-! ### proc (PPTT processor hierarchy node): five flag options, pushes cache, and direct writes
    of the three public fields (`set=slot.value`; slot 0 flags, 1 parent, 2 ACPI processor id) -/

/-- no well-formedness needed: a write to a slot the node does not have is a no-op in the model
    and invisible to the spec -/
theorem proc_step (s : EArgs) (o : Opt) (s' : EArgs) (hs : s.n.size = 3 ∧ s.s.length = 1) (_ : True)
    (h : applyOpt .proc s o = some s') :
    (s'.n.size = 3 ∧ s'.s.length = 1) ∧ s'.b = s.b ∧
    s'.num 0 = (if o.name = "set" ∧ o.arg 0 = 0 then o.arg 1
      else s.num 0 ||| callBits (C11.flagBits .proc) o) ∧
    s'.num 1 = (if o.name = "set" ∧ o.arg 0 = 1 then o.arg 1 else s.num 1) ∧
    s'.num 2 = (if o.name = "set" ∧ o.arg 0 = 2 then o.arg 1 else s.num 2) ∧
    s'.s.getD 0 [] = if o.name = "cache" then s.s.getD 0 [] ++ [o.arg 0] else s.s.getD 0 [] := by
  have hn := name_mem h
  obtain ⟨nm, v⟩ := o
  simp only [optNames, List.mem_cons, List.mem_nil_iff, or_false] at hn
  rcases hn with rfl | rfl | rfl | rfl | rfl | rfl | rfl <;>
    (obtain rfl := Option.some.inj h
     simp [num_orNum, num_setNum_of_lt, hs, callBits, C11.flagBits])

theorem proc_slots {opts : List Opt} {s a : EArgs} (hs : s.n.size = 3 ∧ s.s.length = 1)
    (h : applyOpts .proc s opts = .ok a) :
    (a.n.size = 3 ∧ a.s.length = 1) ∧ a.b = s.b ∧
    a.num 0 = opts.foldl (fun v o => if o.name = "set" ∧ o.arg 0 = 0 then o.arg 1
      else v ||| callBits (C11.flagBits .proc) o) (s.num 0) ∧
    a.num 1 = lastSet opts 1 (s.num 1) ∧ a.num 2 = lastSet opts 2 (s.num 2) ∧
    a.s.getD 0 [] = s.s.getD 0 [] ++ pushed opts "cache" :=
  have hp : ∀ o ∈ opts, True := fun _ _ => trivial
  ⟨slot_inv hs hp h proc_step, slot_keep hs hp h proc_step (·.b) (·.1),
   slot_fold hs hp h proc_step (·.num 0) _ (·.2.1),
   slot_lastSet hs hp h proc_step (·.2.2.1), slot_lastSet hs hp h proc_step (·.2.2.2.1),
   (slot_pushed hs hp h proc_step (·.s.getD 0 []) "cache" id (·.2.2.2.2)).trans (by rw [List.map_id])⟩

theorem proc_eq_mk (a : EArgs) (hn : a.n.size = 3) (hs : a.s.length = 1) :
    a = ⟨#[a.num 0, a.num 1, a.num 2], a.b, [a.s.getD 0 []]⟩ := by
  obtain ⟨⟨n⟩, b, s⟩ := a
  match n, hn, s, hs with
  | [x, y, z], _, [l], _ => rfl

theorem proc_final (c : EArgs) (opts : List Opt) (a : EArgs)
    (h : applyOpts .proc (init .proc c) opts = .ok a) :
    a = { n := #[procFlags opts, lastSet opts 1 (c.num 0), lastSet opts 2 (c.num 1)],
          s := [pushed opts "cache"] } := by
  obtain ⟨⟨hn, hs⟩, hb, h0, h1, h2, hl⟩ := proc_slots ⟨rfl, rfl⟩ h
  rw [proc_eq_mk a hn hs, hb, h0.trans (ProcF.foldl_procFlags opts), h1, h2, hl]
  rfl

theorem proc_bits (os : List Opt) :
    bit os "physical" 1 ||| bit os "valid" 2 ||| bit os "thread" 4 ||| bit os "leaf" 8 ||| bit os "identical" 16 =
      bit os "physical" 1 + bit os "valid" 2 + bit os "thread" 4 + bit os "leaf" 8 + bit os "identical" 16 := by
  unfold bit
  cases has os "physical" <;> cases has os "valid" <;> cases has os "thread" <;> cases has os "leaf" <;>
    cases has os "identical" <;> rfl

/-- the builder state of a program without a direct write of the flags field: the flags slot is
    the union of the bits of the flag builders invoked -/
theorem final_proc_noFlagsWrite (c : EArgs) (opts : List Opt) (a : EArgs)
    (h : applyOpts .proc (init .proc c) opts = .ok a) (hnw : noFlagsWrite opts = true) :
    a = { n := #[bit opts "physical" 1 ||| bit opts "valid" 2 ||| bit opts "thread" 4 ||| bit opts "leaf" 8 |||
                   bit opts "identical" 16, lastSet opts 1 (c.num 0), lastSet opts 2 (c.num 1)],
          s := [pushed opts "cache"] } := by
  rw [proc_final c opts a h, ProcF.procFlags_of_noFlagsWrite opts hnw, proc_bits]

theorem conforms_proc (c : EArgs) (opts : List Opt) (a : EArgs)
    (hwf : entryWf .proc c opts = true) (h : buildEntry .proc c opts = .ok a) :
    layoutOracle .proc c opts (entryBytes .proc a) = none := by
  obtain ⟨-, -, -, ha, -⟩ := build_unpack hwf h
  rw [proc_final c opts a ha]
  unfold layoutOracle rows entryBytes fields
  exact conforms_head_array 20 4 _ _ _ (by simp [tilesFrom, Row.off, Row.width, res]) (by simp [layout])

/-! ### cache (PPTT cache type structure): valued options, each also raising its "valid" flag;
    the attribute codes are OR-accumulated -/

/-- the attribute code one call contributes (`id` as in `Spec.rows`' `orAll "alloc" id`, so that
    `foldl_or_pushed` matches all three alike) -/
def cacheAttr (o : Opt) : Nat :=
  (if o.name = "alloc" then id (o.arg 0) else 0) ||| ((if o.name = "ctype" then o.arg 0 * 4 else 0) |||
    (if o.name = "wp" then o.arg 0 * 16 else 0))

theorem cache_step (s : EArgs) (o : Opt) (s' : EArgs) (hs : s.n.size = 8) (_ : optWf .cache o = true)
    (h : applyOpt .cache s o = some s') :
    s'.n.size = 8 ∧
    s'.num 0 = (if o.name = "next" then o.arg 0 else s.num 0) ∧
    s'.num 1 = (if o.name = "size" then o.arg 0 else s.num 1) ∧
    s'.num 2 = (if o.name = "sets" then o.arg 0 else s.num 2) ∧
    s'.num 3 = (if o.name = "assoc" then o.arg 0 else s.num 3) ∧
    s'.num 4 = s.num 4 ||| cacheAttr o ∧
    s'.num 5 = (if o.name = "line" then o.arg 0 else s.num 5) ∧
    s'.num 6 = (if o.name = "id" then o.arg 0 else s.num 6) ∧
    s'.num 7 = s.num 7 ||| callBits (C11.flagBits .cache) o := by
  have hn := name_mem h
  obtain ⟨nm, v⟩ := o
  simp only [optNames, List.mem_cons, List.mem_nil_iff, or_false] at hn
  rcases hn with rfl | rfl | rfl | rfl | rfl | rfl | rfl | rfl | rfl <;>
    (obtain rfl := Option.some.inj h
     simp [num_setNum, num_orNum, hs, cacheAttr, callBits, C11.flagBits])

theorem cache_slots {opts : List Opt} {s a : EArgs} (hs : s.n.size = 8)
    (hw : ∀ o ∈ opts, optWf .cache o = true) (h : applyOpts .cache s opts = .ok a) :
    a.num 0 = lastVal opts "next" 0 (s.num 0) ∧ a.num 1 = lastVal opts "size" 0 (s.num 1) ∧
    a.num 2 = lastVal opts "sets" 0 (s.num 2) ∧ a.num 3 = lastVal opts "assoc" 0 (s.num 3) ∧
    a.num 4 = s.num 4 ||| ((pushed opts "alloc").foldl (fun acc v => acc ||| id v) 0 |||
        ((pushed opts "ctype").foldl (fun acc v => acc ||| v * 4) 0 |||
         (pushed opts "wp").foldl (fun acc v => acc ||| v * 16) 0)) ∧
    a.num 5 = lastVal opts "line" 0 (s.num 5) ∧ a.num 6 = lastVal opts "id" 0 (s.num 6) ∧
    a.num 7 = s.num 7 ||| C11.flagSum opts (C11.flagBits .cache) := by
  refine ⟨slot_lastVal hs hw h cache_step "next" 0 (·.1), slot_lastVal hs hw h cache_step "size" 0 (·.2.1),
    slot_lastVal hs hw h cache_step "sets" 0 (·.2.2.1), slot_lastVal hs hw h cache_step "assoc" 0 (·.2.2.2.1), ?_,
    slot_lastVal hs hw h cache_step "line" 0 (·.2.2.2.2.2.1),
    slot_lastVal hs hw h cache_step "id" 0 (·.2.2.2.2.2.2.1),
    slot_flags hs hw h cache_step _ (C11.disjoint_flagBits .cache) (·.2.2.2.2.2.2.2)⟩
  rw [slot_or hs hw h cache_step cacheAttr (·.2.2.2.2.1)]
  unfold cacheAttr
  rw [foldl_or_or0, foldl_or_or0, foldl_or_pushed, foldl_or_pushed "ctype" (· * 4), foldl_or_pushed "wp" (· * 16)]

theorem conforms_cache (c : EArgs) (opts : List Opt) (a : EArgs)
    (hwf : entryWf .cache c opts = true) (h : buildEntry .cache c opts = .ok a) :
    layoutOracle .cache c opts (entryBytes .cache a) = none := by
  obtain ⟨-, hw, -, ha, -⟩ := build_unpack hwf h
  obtain ⟨s0, s1, s2, s3, s4, s5, s6, s7⟩ := cache_slots rfl hw ha
  unfold layoutOracle rows
  apply conforms_of_eq
  · simp [tilesFrom, Row.off, Row.width, res]
  · simp [layout, s0, s1, s2, s3, s4, s5, s6, s7, C11.flagSum, C11.flagBits, Nat.or_assoc, Nat.add_assoc]

/-! ### loc (HMAT system locality latency/bandwidth; C12): flags nst, mtsr; seti, sett, sete -/

theorem loc_step (T : Nat) (s : EArgs) (o : Opt) (s' : EArgs)
    (hs : s.n.size = 6 ∧ s.s.length = 3 ∧ s.num 5 = T) (_ : optWf .loc o = true)
    (h : applyOpt .loc s o = some s') :
    (s'.n.size = 6 ∧ s'.s.length = 3 ∧ s'.num 5 = T) ∧
    s'.num 0 = s.num 0 ||| callBits (C11.flagBits .loc) o ∧
    (∀ j, 0 ≠ j → s'.num j = s.num j) ∧
    s'.s.getD 0 [] = (if o.name = "seti" then (s.s.getD 0 []).set (o.arg 0) (o.arg 1) else s.s.getD 0 []) ∧
    s'.s.getD 1 [] = (if o.name = "sett" then (s.s.getD 1 []).set (o.arg 0) (o.arg 1) else s.s.getD 1 []) ∧
    s'.s.getD 2 [] = (if o.name = "sete" then (s.s.getD 2 []).set (o.arg 0 * T + o.arg 1) (o.arg 2)
      else s.s.getD 2 []) ∧
    (o.name = "sete" → o.arg 1 < T) := by
  have hn := name_mem h
  obtain ⟨nm, v⟩ := o
  simp only [optNames, List.mem_cons, List.mem_nil_iff, or_false] at hn
  rcases hn with rfl | rfl | rfl | rfl | rfl
  · obtain rfl := Option.some.inj h
    simp +contextual [num_orNum, hs, callBits, C11.flagBits]
  · obtain rfl := Option.some.inj h
    simp +contextual [num_orNum, hs, callBits, C11.flagBits]
  · obtain ⟨-, e⟩ := Option.ite_none_right_eq_some.mp h
    obtain rfl := Option.some.inj e
    simp [hs, callBits, C11.flagBits]
  · obtain ⟨-, e⟩ := Option.ite_none_right_eq_some.mp h
    obtain rfl := Option.some.inj e
    simp [hs, callBits, C11.flagBits]
  · obtain ⟨hg, e⟩ := Option.ite_none_right_eq_some.mp h
    obtain rfl := Option.some.inj e
    rw [hs.2.2] at hg
    simp [hs, callBits, C11.flagBits, hg.2]

theorem loc_slots (T : Nat) {opts : List Opt} {s a : EArgs}
    (hs : s.n.size = 6 ∧ s.s.length = 3 ∧ s.num 5 = T) (hw : ∀ o ∈ opts, optWf .loc o = true)
    (h : applyOpts .loc s opts = .ok a) :
    a.num 0 = s.num 0 ||| C11.flagSum opts (C11.flagBits .loc) ∧ (∀ j, 0 ≠ j → a.num j = s.num j) ∧
    a.s.getD 0 [] = opts.foldl (fun l o => if o.name = "seti" then l.set (o.arg 0) (o.arg 1) else l)
      (s.s.getD 0 []) ∧
    a.s.getD 1 [] = opts.foldl (fun l o => if o.name = "sett" then l.set (o.arg 0) (o.arg 1) else l)
      (s.s.getD 1 []) ∧
    a.s.getD 2 [] = opts.foldl (fun l o => if o.name = "sete" then l.set (o.arg 0 * T + o.arg 1) (o.arg 2) else l)
      (s.s.getD 2 []) ∧
    ∀ o ∈ opts, o.name = "sete" → o.arg 1 < T :=
  ⟨slot_flags hs hw h (loc_step T) _ (C11.disjoint_flagBits .loc) (·.1),
   fun j hj => slot_keep hs hw h (loc_step T) (·.num j) (·.2.1 j hj),
   slot_fold hs hw h (loc_step T) (·.s.getD 0 []) _ (·.2.2.1),
   slot_fold hs hw h (loc_step T) (·.s.getD 1 []) _ (·.2.2.2.1),
   slot_fold hs hw h (loc_step T) (·.s.getD 2 []) _ (·.2.2.2.2.1),
   slot_forall hs hw h (loc_step T) _ (·.2.2.2.2.2)⟩

/-- last value assigned to index `i` by option `nm` (`seti`/`sett`), default 0 -/
def lastIdx (opts : List Opt) (nm : String) (i : Nat) : Nat :=
  lastD (fun o => decide (o.name = nm ∧ o.arg 0 = i)) (fun o => o.arg 1) opts 0

/-- last value assigned by `sete` to the matrix cell with linear index `k`, default 0xFFFF -/
def cellK (opts : List Opt) (T k : Nat) : Nat :=
  lastD (fun o => decide (o.name = "sete" ∧ o.arg 0 * T + o.arg 1 = k)) (fun o => o.arg 2) opts 0xFFFF

theorem lastIdx_nil (nm : String) : lastIdx [] nm = fun _ => 0 := rfl
theorem cellK_nil (T : Nat) : cellK [] T = fun _ => 0xFFFF := rfl

/-- C12: the cell with linear index `i * T + j` holds the last value assigned to `(i, j)` -/
theorem cellK_eq_cell (opts : List Opt) (T i j : Nat)
    (hb : ∀ p ∈ opts, p.name = "sete" → p.arg 1 < T) (hj : j < T) :
    cellK opts T (i * T + j) =
      lastD (fun o => decide (o.name = "sete" ∧ o.arg 0 = i ∧ o.arg 1 = j)) (fun o => o.arg 2) opts 0xFFFF := by
  unfold cellK
  apply lastD_congr
  intro p hp
  by_cases hn : p.name = "sete"
  · have := cell_index_inj T (p.arg 0) (p.arg 1) i j (hb p hp hn) hj
    simp [hn, this]
  · simp [hn]

theorem conforms_loc (c : EArgs) (opts : List Opt) (a : EArgs)
    (hwf : entryWf .loc c opts = true) (h : buildEntry .loc c opts = .ok a) :
    layoutOracle .loc c opts (entryBytes .loc a) = none := by
  obtain ⟨-, hw, -, ha, -⟩ := build_unpack hwf h
  obtain ⟨h0, hk, l0, l1, l2, hb⟩ := loc_slots (c.num 5) (s := init .loc c) ⟨rfl, rfl, rfl⟩ hw ha
  -- the three lists start as constant lists; written by index, cell `i` ends with `lastD … i`
  have l0' : a.s.getD 0 [] = (List.range (c.num 4)).map (lastIdx opts "seti") :=
    l0.trans (foldl_set_replicate (·.name = "seti") (·.arg 0) (·.arg 1) _ 0 opts)
  have l1' : a.s.getD 1 [] = (List.range (c.num 5)).map (lastIdx opts "sett") :=
    l1.trans (foldl_set_replicate (·.name = "sett") (·.arg 0) (·.arg 1) _ 0 opts)
  have l2' : a.s.getD 2 [] = (List.range (c.num 4 * c.num 5)).map (cellK opts (c.num 5)) :=
    l2.trans (foldl_set_replicate (·.name = "sete") (fun o => o.arg 0 * c.num 5 + o.arg 1) (·.arg 2) _ 0xFFFF opts)
  have e2 : (List.range (c.num 4 * c.num 5)).map (cellK opts (c.num 5)) =
      (List.range (c.num 4)).flatMap (fun i => (List.range (c.num 5)).map (fun j =>
        lastD (fun o => decide (o.name = "sete" ∧ o.arg 0 = i ∧ o.arg 1 = j)) (fun o => o.arg 2) opts 0xFFFF)) := by
    rw [range_mul_map]
    congr 1; funext i
    apply List.map_congr_left
    intro j hj
    exact cellK_eq_cell opts _ i j hb (List.mem_range.mp hj)
  have h0' : a.num 0 = c.num 0 + bit opts "mtsr" 0x10 + bit opts "nst" 0x20 := by
    rw [h0, show (init .loc c).num 0 = C11.flagBase .loc c from rfl, ← add_eq_or_of_and_eq_zero _ _
      (C11.and_flagSum_eq_zero opts _ _ (C11.disjoint_flagBits .loc) (C11.flagBase_disjoint .loc c opts hwf))]
    simp [C11.flagSum, C11.flagBits, C11.flagBase, Nat.add_assoc]
  unfold layoutOracle rows
  simp only [entryBytes, fields, l0', l1', l2', List.length_map, List.length_range]
  rw [encFields_append, encFields_append, encFields_append, encFields_map_num, encFields_map_num,
    encFields_map_num, e2]
  have hlen : 4 * c.num 4 + 4 * c.num 5 + 2 * (c.num 4 * c.num 5) + 32 =
      32 + 4 * c.num 4 + 4 * c.num 5 + 2 * (c.num 4 * c.num 5) := by omega
  -- the 32-byte head, then the three arrays
  exact (((Lays.append (mid := 32) ⟨by simp [tilesFrom, Row.off, Row.width, res], by simp [layout, h0', hk, hlen]⟩
    (lays_rangeRows 32 4 _ _)).append (lays_rangeRows _ 4 _ _)).append (lays_matrix _ 2 _ _ _)).conforms

end Acpi.C04
