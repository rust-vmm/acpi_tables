/-
  C10 — the resource-template oracle the driver evaluates on the implementation's bytes
  (Spec.rtOracle) holds of the model's encoder.
-/
import Acpi.Spec.ResTemplate
import Acpi.Props.C10
import Acpi.Lemmas.ResTemplate
namespace Acpi.C10
open Spec

/-- **C10 (oracle on the model)**: a resource template of descriptors within their Rust types,
    if the encoder does not refuse, passes the oracle: DefBuffer whose BufferSize is its payload,
    payload tiled by the descriptors' own lengths up to the end tag, every descriptor conforming
    to its reference layout. -/
theorem template_oracle (ints : List Nat) (blobs : List Bytes) (kids : AmlList) (hk : allDescriptors kids)
    (bs : Bytes) (h : (Aml.node .rt ints blobs kids).enc = some bs) :
    rtOracle kids.toList bs = none := by
  obtain ⟨ds, hc, hobj⟩ := rt_enc_some h
  have hbuf := bufferPayloadAny_framed hobj
  have hwalk := walk_kids kids hk ds hc ((ds ++ [0x79, 0x00]).length + 1) (by simp only [List.length_append]; omega)
  have hlen := length_items kids ds hc
  unfold rtOracle
  simp only [hbuf, hwalk]
  rw [if_neg (by simp [hlen]), if_neg (by simp)]
  split
  · rename_i i heq
    have hi := List.mem_range.mp (List.mem_of_find?_eq_some heq)
    have hp := List.find?_some heq
    have hf := kid_ok kids hk ds hc [[0x79, 0x00]] i hi (.node .zero [] [] .nil)
    exact absurd (hf ▸ hp : false = true) (by decide)
  · rfl

end Acpi.C10
