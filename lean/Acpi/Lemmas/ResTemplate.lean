/-
  Lemmas for Props/C10/Oracle.lean: the resource-template oracle (`Spec.rtOracle`) on the
  model's encoder — the per-descriptor check over the walk's items, and the DefBuffer header.
-/
import Acpi.Spec.ResTemplate
import Acpi.Props.C10
namespace Acpi.C10
open Spec

theorem isDescriptor_eq (op : Op) : Spec.isDescriptor op = C10.isDescriptor op := by
  cases op <;> rfl

theorem length_items (kids : AmlList) (ds : Bytes) (h : catOpt (AmlList.encs kids) = some ds) :
    ((AmlList.encs kids).filterMap id).length = kids.toList.length := by
  induction kids, ds, h using catOpt_encs_induction with
  | nil => rfl
  | cons a r d ds' hd _ ih => simp [AmlList.encs, hd, AmlList.toList, ih]

/-- the per-descriptor check of `rtOracle` fails at no index -/
theorem kid_ok (kids : AmlList) (hk : allDescriptors kids) (ds : Bytes)
    (h : catOpt (AmlList.encs kids) = some ds) : ∀ (tail : List Bytes) (i : Nat), i < kids.toList.length →
    ∀ dflt : Aml,
    (match kids.toList.getD i dflt with
      | .node op ints _ _ =>
        match Spec.Res.rows op ints with
        | some (total, rs) =>
          (Spec.conforms total rs (((AmlList.encs kids).filterMap id ++ tail).getD i [])).isSome
        | none => true) = false := by
  induction kids, ds, h using catOpt_encs_induction with
  | nil => intro _ i hi; simp [AmlList.toList] at hi
  | cons a r d ds' hd _ ih =>
    intro tail i hi dflt
    obtain ⟨op, ints, blobs, ks⟩ := a
    obtain ⟨hop, hwf, hrest⟩ := hk
    rw [AmlList.encs, hd]
    simp only [List.filterMap_cons, id, AmlList.toList, List.cons_append]
    cases i with
    | zero =>
      simp only [List.getD_cons_zero]
      obtain ⟨total, rs, hrows, hc⟩ := descriptor_conforms op hop ints blobs ks hwf d hd
      simp only [hrows, hc, Option.isSome_none]
    | succ j =>
      simp only [List.getD_cons_succ]
      simp only [AmlList.toList, List.length_cons] at hi
      exact ih hrest tail j (by omega) dflt

/-- the DefBuffer header of the oracle reads back the data of an accepted buffer object -/
theorem bufferPayloadAny_framed {data bs : Bytes}
    (h : pkgObj [0x11] (encUsize (UInt64.ofNat data.length) ++ data) = some bs) :
    rtOracle.bufferPayloadAny bs = some data := by
  obtain ⟨hlt, _, rfl, hdec⟩ := buffer_some h
  simp only [List.cons_append, List.nil_append, List.drop_succ_cons, List.drop_zero, List.length_cons,
    Nat.add_sub_cancel] at hdec
  unfold rtOracle.bufferPayloadAny
  simp only [List.cons_append, List.nil_append, hdec]
  rw [if_neg (by simp), List.drop_left, C08.decode_enc _ _ (by omega)]
  simp

end Acpi.C10
